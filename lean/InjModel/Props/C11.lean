/-
  C11 — the trampoline is placed within reach or installation fails cleanly.
  `Alloc.search` is `allocate_jit_memory_unix` as a function of the kernel's answers to the
  hinted mmap calls (the oracle script); the theorems quantify over *all* scripts.
-/
import InjModel.Generated.Layout
import InjModel.Lemmas.Alloc
import InjModel.Props.C01
import InjModel.Props.C15
namespace Inj.Props
open Inj.Alloc

theorem C11_consts_found : Generated.Consts.missing = [] ∧ Generated.Consts.linuxMaxRange = 134217728 := by decide

/-- **Sound, and gives back what it rejects** — for every target address (including those below
    the range, where the window is clipped at 0), every page size, and every sequence of kernel
    answers: if the search returns `a` then `|a − src| < range`, and `a` is the only mapping
    obtained and not unmapped; if it panics, *nothing* it obtained is left mapped. -/
theorem C11_sound (src range page size : Nat) (answers : List (Option Nat)) :
    (∀ a, (search src range page size answers).1 = AResult.ok a →
      absDiff a src < range ∧ leaked (search src range page size answers).2 [] = [a]) ∧
    ((search src range page size answers).1 = AResult.panic →
      leaked (search src range page size answers).2 [] = []) :=
  search_sound src range page size answers

/-- **Terminates**: the loop probes at most once per page of the (possibly clipped) window —
    given that many answers it always finishes (returns or panics). -/
theorem C11_terminates (src range page size : Nat) (hp : 0 < page) (answers : List (Option Nat))
    (h : (src + range - (src - range)) / page + 1 ≤ answers.length) :
    (search src range page size answers).1 ≠ AResult.stuck := by
  apply loop_terminates
  calc src + range = src - range + (src + range - (src - range)) :=
      (Nat.add_sub_cancel' (Nat.le_trans (Nat.sub_le _ _) (Nat.le_add_right _ _))).symm
    _ < src - range + page * ((src + range - (src - range)) / page + 1) :=
      Nat.add_lt_add_left (Nat.lt_mul_div_succ _ hp) _
    _ ≤ src - range + answers.length * page := by
      rw [Nat.mul_comm]; exact Nat.add_le_add_left (Nat.mul_le_mul_right _ h) _

/-- at most `2·range/page + 1` probes, whatever the target -/
theorem C11_probe_bound (src range page : Nat) (hp : 0 < page) :
    (src + range - (src - range)) / page + 1 ≤ 2 * range / page + 1 :=
  -- true for `page = 0` as well (`x / 0 = 0`): `hp` is not used
  Nat.succ_le_succ (Nat.div_le_div_right (by omega))

/-- **Within reach, x86-64**: whatever address the search returns, the entry branch written for
    it lands exactly on it (C01_branch_lands needs no range hypothesis at all). -/
theorem C11_reach_x86 (mode : Mode) (func a : Nat)
    (hf : func < 18446744073709551616) (ha : a < 18446744073709551616) :
    (∃ why, X86.genBranch mode func a = Res.panic why) ∨
    (∃ bs, X86.genBranch mode func a = Res.ok bs ∧ (bs.length = 5 ∨ bs.length = 12)) := by
  rcases C01_branch_lands mode func a hf ha with h | ⟨bs, h1, h2, _⟩
  · left; exact h
  · right; exact ⟨bs, h1, h2⟩

/-- **Within reach, AArch64**: every placement the search accepts (strictly inside ±128 MiB) is
    encodable by the `B` written at the entry — the installation cannot be refused after the
    mapping was made. -/
theorem C11_reach_a64 (func a : Nat) (hf : func < 9223372036854775808) (ha : a < 9223372036854775808)
    (af : func % 4 = 0) (aa : a % 4 = 0) (h : absDiff a func < 134217728) :
    ∃ imm26, A64.entryLinux func a = Res.ok [335544320 + imm26, 3573751839, 3573751839] := by
  have hr : -134217728 ≤ (a : Int) - func ∧ (a : Int) - func < 134217728 := by
    have := (absDiff_lt a func _).1 h; omega
  obtain ⟨i, h1, _⟩ := (C15_entry_linux func a hf ha af aa).1 hr
  exact ⟨i, h1⟩

/-- non-vacuity: a script that first answers far away, then fails, then honours -/
example : search 0x500000000000 134217728 4096 12 [some 0x7f0000000000, none, some 0x4ffff8002000] =
    (AResult.ok 0x4ffff8002000,
      [AEvent.mmap 0x4ffff8000000 12 (some 0x7f0000000000), AEvent.munmap 0x7f0000000000 12,
       AEvent.mmap 0x4ffff8001000 12 none, AEvent.mmap 0x4ffff8002000 12 (some 0x4ffff8002000)]) := by decide
/-- exactly +range is rejected and given back -/
example : (search 0x500000000000 134217728 4096 12 [some 0x500008000000]).2 =
    [AEvent.mmap 0x4ffff8000000 12 (some 0x500008000000), AEvent.munmap 0x500008000000 12] := by decide

/-- the model's state is complete for the back ends: `injector_core` declares no process-wide or
    thread-local mutable state (regenerated from the source on every run) -/
theorem C11_state_modelled : Generated.Layout.coreStatics = [] := by decide

end Inj.Props

#print axioms Inj.Props.C11_consts_found
#print axioms Inj.Props.C11_sound
#print axioms Inj.Props.C11_terminates
#print axioms Inj.Props.C11_probe_bound
#print axioms Inj.Props.C11_reach_x86
#print axioms Inj.Props.C11_reach_a64
#print axioms Inj.Props.C11_state_modelled
