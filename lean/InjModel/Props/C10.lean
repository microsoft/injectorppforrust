/-
  C10 — forced boolean result: only for bool functions, exactly the value, nothing else.
  Gate: Model/Sig.lean (`signature_returns_bool`, over the token rendering of every
  function-pointer type).  Stub: Model/X86.lean + Model/Machine.lean.
-/
import InjModel.Generated.Layout
import InjModel.Lemmas.Sig
import InjModel.Lemmas.SigText
import InjModel.Lemmas.Machine
namespace Inj.Props
open Inj.Sig

/-- **Tie to the source**: `will_return_boolean` tests the top-level return type, before it
    patches anything. -/
theorem C10_source : Generated.Layout.boolGate = Generated.Layout.BoolGateSrc.topLevelReturnType ∧
    Generated.Layout.boolGateBeforeGuard = true := by decide

/-- **Gate, all signatures.**  For every function-pointer type (any qualifiers, any ABI, any
    parameter list, any return type — including return types that merely *end* in `-> bool`
    such as `fn() -> bool`, `*const fn() -> bool`, `&dyn Fn() -> bool`) the gate accepts
    exactly when the return type is `bool`. -/
theorem C10_gate (f : FnTy) : boolGate (renderFn f) = true ↔ f.ret = Ty.prim boolId := by
  unfold boolGate; rw [C10_source.1]
  exact boolGateTopLevel_renderFn f

/-- **Gate on the recorded text itself (chars, byte offsets, `trim`).**  For every function-pointer
    type, spelled the way `type_name` spaces it with any spelling of identifiers that contains neither
    parentheses nor white space (and spells only `bool` as `bool`), the char-level scan
    `Sig.returnsBoolText` accepts exactly when the return type is `bool`.  `Tie/SigText.T_sig_returns_bool`
    proves the *translated* `signature_returns_bool` equal to `returnsBoolText` on every text, so this is
    the gate clause of C10 for the code as translated on this run (`T_c10_gate_translated`). -/
theorem C10_gate_text (nm : Names) (ok : NamesOK nm) (f : FnTy) :
    returnsBoolText (spellC nm (renderFn f)) = true ↔ f.ret = Ty.prim boolId :=
  returnsBoolText_renderFn nm ok f

/-- the hypotheses of `C10_gate_text` are satisfiable: a spelling of names that meets `NamesOK` -/
def exampleNames : Names :=
  { id := fun n => if n = boolId then ['b', 'o', 'o', 'l'] else 'T' :: List.replicate n 'x',
    num := fun n => List.replicate (n + 1) '1',
    abi := fun _ => ['C'] }

theorem exampleNames_ok : NamesOK exampleNames := by
  refine ⟨fun n c hc => ?_, fun n => ?_, fun n c hc => ?_, fun a c hc => ?_⟩
  · simp only [exampleNames] at hc
    split at hc
    · exact (by decide : ∀ c ∈ ['b', 'o', 'o', 'l'], c ≠ '(' ∧ c ≠ ')' ∧ Rt.isWs c = false) c hc
    · rcases List.mem_cons.mp hc with rfl | h
      · decide
      · rw [List.eq_of_mem_replicate h]; decide
  · simp only [exampleNames]
    split
    · exact ⟨fun _ => ‹_›, fun _ => rfl⟩
    · exact ⟨nofun, fun h => absurd h ‹_›⟩
  · rw [List.eq_of_mem_replicate hc]; decide
  · rw [List.mem_singleton.mp hc]; decide

/-- the unchecked entry point carries the empty signature: always refused -/
theorem C10_gate_unchecked : boolGate [] = false := by
  unfold boolGate; rw [C10_source.1]; rfl

/-- The pinned tree's test (`ends_with("-> bool")`) is *not* equivalent (finding F5):
    `fn() -> fn() -> bool` is accepted although it returns a function pointer. -/
theorem C10_endsWith_false :
    ∃ f : FnTy, boolGateEndsWith (renderFn f) = true ∧ f.ret ≠ Ty.prim boolId :=
  ⟨FnTy.mk false 0 TyList.nil (Ty.fn_ (FnTy.mk false 0 TyList.nil (Ty.prim boolId))),
    -- not `decide`: the rendering functions are defined by well-founded recursion and do not evaluate
    by simp [boolGateEndsWith, renderFn, renderRet, renderArgs, render, boolId], nofun⟩

/-- **Stub, all caller states (x86-64).**  After the boolean installation for `func`, executing
    from `func` in *any* CPU state whose stack top holds a return address: control is back at
    that address, rax holds exactly the requested value, rsp is popped by 8 as after a normal
    `ret`, every other general register, all vector registers and the flags are unchanged —
    and no instruction of the path writes memory (the ISA fragment has no store).
    (`hf` is not needed: only the branch target has to be a 64-bit value.) -/
theorem C10_stub (mode : Mode) (s s1 : Machine.MState) (func jit : Nat) (v : Bool)
    (h : Machine.installX86 mode s func (Machine.Payload.bool v) jit = some s1)
    (hdis : ∀ x, (jit ≤ x ∧ x < jit + 4096) → ¬ (func ≤ x ∧ x < func + 12))
    (hf : func < 18446744073709551616) (hj : jit < 18446744073709551616)
    (c : X86.Cpu) (hc : c.rip = func) :
    ∃ k c', k ≤ 4 ∧ X86.run s1.mem k c = some c' ∧
      c'.rip = X86.rd64 s1.mem (c.gpr 4) ∧ c'.gpr 0 = (if v then 1 else 0) ∧
      c'.gpr 4 = (c.gpr 4 + 8) % 18446744073709551616 ∧
      (∀ i, i ≠ 0 → i ≠ 4 → c'.gpr i = c.gpr i) ∧ c'.xmm = c.xmm ∧ c'.flags = c.flags :=
  Machine.installX86_bool_returns h hdis hj c hc

/-- the stub itself: the eight bytes, as extracted from the source -/
theorem C10_stub_bytes (v : Bool) :
    X86.boolStub v = [0x48, 0xC7, 0xC0, (if v then 1 else 0), 0x00, 0x00, 0x00, 0xC3] := X86.boolStub_eq v

/-- non-vacuity: `fn(i32) -> bool` is accepted, `fn(i32) -> &dyn Fn() -> bool` is not -/
example : boolGate (renderFn (FnTy.mk false 0 (TyList.cons (Ty.prim 1) TyList.nil) (Ty.prim boolId))) = true :=
  (C10_gate _).mpr rfl
example : boolGate (renderFn (FnTy.mk false 0 (TyList.cons (Ty.prim 1) TyList.nil)
    (Ty.ref false (Ty.dynfn TyList.nil (Ty.prim boolId))))) = false :=
  Bool.eq_false_iff.mpr fun h => nomatch (C10_gate _).mp h

/-- non-vacuity on the text: the spelled `fn(T1) -> bool` is accepted, the spelled `fn() -> fn() -> bool` is not -/
example : returnsBoolText (spellC exampleNames (renderFn (FnTy.mk false 0 (TyList.cons (Ty.prim 1) TyList.nil) (Ty.prim boolId)))) = true :=
  (C10_gate_text exampleNames exampleNames_ok _).mpr rfl
example : returnsBoolText (spellC exampleNames (renderFn (FnTy.mk false 0 TyList.nil
    (Ty.fn_ (FnTy.mk false 0 TyList.nil (Ty.prim boolId)))))) = false :=
  Bool.eq_false_iff.mpr fun h => nomatch (C10_gate_text exampleNames exampleNames_ok _).mp h

/-- the model's state is complete for the back ends: `injector_core` declares no process-wide or
    thread-local mutable state (regenerated from the source on every run) -/
theorem C10_state_modelled : Generated.Layout.coreStatics = [] := by decide

end Inj.Props

#print axioms Inj.Props.C10_source
#print axioms Inj.Props.C10_gate
#print axioms Inj.Props.C10_gate_unchecked
#print axioms Inj.Props.C10_gate_text
#print axioms Inj.Props.exampleNames_ok
#print axioms Inj.Props.C10_endsWith_false
#print axioms Inj.Props.C10_stub
#print axioms Inj.Props.C10_stub_bytes
#print axioms Inj.Props.C10_state_modelled
