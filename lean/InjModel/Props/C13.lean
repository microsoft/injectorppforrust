/-
  C13 — redirection is transparent to the calling convention.
  x86-64: Model/X86 + Model/Machine (the only instructions between caller and fake are `jmp`s and,
  in the long form, `mov rax, imm64`; the ISA fragment has no store).  AArch64: Model/A64.
  32-bit ARM: see C16 (the scratch register of the literal load is callee-saved: finding F6).
-/
import InjModel.Generated.Layout
import InjModel.Props.C01
import InjModel.Props.C15
import InjModel.Props.C16
namespace Inj.Props

/-- System V x86-64 register numbers: rdi 7, rsi 6, rdx 2, rcx 1, r8, r9 (integer arguments;
    rdi also carries the hidden return slot), rbx 3, rbp 5, r12–r15 (callee-saved), rsp 4. -/
def sysvArgRegs : List Nat := [7, 6, 2, 1, 8, 9]
def sysvCalleeSaved : List Nat := [3, 5, 12, 13, 14, 15]

/-- **x86-64.**  After a successful installation, for every placement (short or long form at
    either hop) and every CPU state at the call: when control arrives at the fake, all six integer
    argument registers (hence the hidden return slot), all vector registers, the callee-saved set,
    the stack pointer and the flags are exactly as the caller left them.  No instruction on the
    path writes memory, so stack arguments and the return address are intact and the fake's `ret`
    returns straight to the caller, its result registers untouched by the library. -/
theorem C13_x86 (mode : Mode) (s s1 : Machine.MState) (func fake jit : Nat)
    (h : Machine.installX86 mode s func (Machine.Payload.exec fake) jit = some s1)
    (hdis : ∀ x, (jit ≤ x ∧ x < jit + 4096) → ¬ (func ≤ x ∧ x < func + 12))
    (hf : func < 18446744073709551616) (hj : jit < 18446744073709551616) (hk : fake < 18446744073709551616)
    (c : X86.Cpu) (hc : c.rip = func) :
    ∃ k c', k ≤ 4 ∧ X86.run s1.mem k c = some c' ∧ c'.rip = fake ∧
      (∀ r ∈ sysvArgRegs, c'.gpr r = c.gpr r) ∧ (∀ r ∈ sysvCalleeSaved, c'.gpr r = c.gpr r) ∧
      c'.gpr 4 = c.gpr 4 ∧ c'.xmm = c.xmm ∧ c'.flags = c.flags ∧
      X86.rd64 s1.mem (c'.gpr 4) = X86.rd64 s1.mem (c.gpr 4) := by
  obtain ⟨⟨k, c', hk4, hrun, hrip, hsame⟩, _⟩ := C01_reach mode s s1 func fake jit h hdis hf hj hk c hc
  refine ⟨k, c', hk4, hrun, hrip, fun r hr => hsame.1 r ((by decide : ∀ r ∈ sysvArgRegs, r ≠ 0) r hr),
    fun r hr => hsame.1 r ((by decide : ∀ r ∈ sysvCalleeSaved, r ≠ 0) r hr),
    hsame.1 4 (by decide), hsame.2.1, hsame.2.2, ?_⟩
  rw [hsame.1 4 (by decide)]

/-- **AArch64 trampoline**: only x9 is written — not an argument register (x0–x7), not the
    indirect-result register (x8), not callee-saved (x19–x28), not fp/lr (x29, x30). -/
theorem C13_a64_tramp (fake : Nat) (h : fake < 18446744073709551616) (c : A64.Cpu) :
    ∃ c', A64.execList ((A64.tramp fake).map A64.decode) c = some c' ∧ c'.pc = fake ∧
      ∀ r, r ≠ 9 → c'.x r = c.x r := by
  exact ⟨_, (C15_tramp fake h c).2, rfl, fun r hr => A64.setX_other _ _ _ _ hr⟩

/-- **AArch64 entry** (Linux `B`, macOS direct `B`): the branch writes no register at all. -/
theorem C13_a64_entry (imm26 : Nat) (c : A64.Cpu) :
    ∃ c', A64.exec (A64.Instr.b imm26) c = some c' ∧ c'.x = c.x := ⟨_, rfl, rfl⟩

/-- **AArch64 macOS long entry**: only x16 (IP0, reserved for veneers) is written. -/
theorem C13_a64_long (pc target : Nat) (hp : pc < 9223372036854775808) (ht : target < 9223372036854775808)
    (hn : ¬ (-134217728 ≤ (target : Int) - pc ∧ (target : Int) - pc < 134217728))
    (hr : -1048576 ≤ ((target / 4096 : Nat) : Int) - (pc / 4096 : Nat) ∧ ((target / 4096 : Nat) : Int) - (pc / 4096 : Nat) < 1048576)
    (c : A64.Cpu) :
    ∃ c', A64.execList ((A64.entryMacos pc target).map A64.decode) { c with pc := pc } = some c' ∧ c'.pc = target ∧
      ∀ r, r ≠ 16 → c'.x r = c.x r := by
  exact ⟨_, C15_entry_macos_far pc target hp ht hn hr c, rfl, fun r hr' => A64.setX_other _ _ _ _ hr'⟩

/-- **32-bit ARM**: transparency fails for the callee-saved set (finding F6, proved in C16). -/
theorem C13_a32_callee_saved_false : ¬ C16_callee_full := C16_callee_full_false

/-- the model's state is complete for the back ends: `injector_core` declares no process-wide or
    thread-local mutable state (regenerated from the source on every run) -/
theorem C13_state_modelled : Generated.Layout.coreStatics = [] := by decide

end Inj.Props

#print axioms Inj.Props.C13_x86
#print axioms Inj.Props.C13_a64_tramp
#print axioms Inj.Props.C13_a64_entry
#print axioms Inj.Props.C13_a64_long
#print axioms Inj.Props.C13_a32_callee_saved_false
#print axioms Inj.Props.C13_state_modelled
