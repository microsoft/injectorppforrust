/-
  C08 — every `fake!` option combination compiles and means the same thing.
  `Generated.FakeArms.arms` is the table of arms as found in macros.rs at check time.
-/
import InjModel.Lemmas.FakeArm
namespace Inj.Props
open Inj.FakeArm Inj.Generated.FakeArms

/-- the general part: every allowed skeleton has the common meaning for *every* environment
    (every value of the condition, of the counter and of N) -/
theorem allowed_meaning (o : Opts) (t : Cond × List Stmt × ElseBr) (ht : t ∈ allowed o) (e : Env) :
    semParts t.1 t.2.1 t.2.2 e = refSem o e := by
  obtain ⟨cnd, cnt, n⟩ := e
  simp only [allowed] at ht
  by_cases hw : o.when_ = true
  · rw [if_pos hw] at ht
    obtain ⟨s, hs, rfl⟩ := List.mem_map.1 ht
    cases cnd with
    | false => simp [semParts, refSem, hw]
    | true => exact runStmts_allowed o s hs cnt n
  · rw [if_neg hw] at ht
    obtain ⟨s, hs, ht⟩ := List.mem_flatMap.1 ht
    have : refSem o ⟨true, cnt, n⟩ = refSem o ⟨cnd, cnt, n⟩ := by simp [refSem, hw]
    rw [← this, ← runStmts_allowed o s hs cnt n]
    simp only [List.mem_cons, List.not_mem_nil, or_false] at ht
    rcases ht with rfl | rfl <;> rfl

theorem shape_meaning (a : Arm) (h : shapeOK a = true) (e : Env) : sem a e = refSem (optsOf a) e := by
  unfold shapeOK at h
  simp only [Bool.and_eq_true, List.contains_iff_mem] at h
  exact allowed_meaning (optsOf a) _ h.2 e

/-- the macro was found and every arm was understood by the translator -/
theorem C08_parsed : macroFound = true ∧ arms.all (fun a => a.parsed) = true := by decide

/-- **Compiles (scoping)**: every arm uses only metavariables its own pattern binds. -/
theorem C08_scoped : arms.all (fun a => a.unboundVars == 0) = true := by decide

-- `decide +kernel` on the three largest sweeps of the table below: the kernel alone evaluates them, where
-- plain `decide` has the elaborator evaluate the same term first.

/-- **Kind**: the generated `fn fake` and the function-pointer coercion carry exactly the
    qualifiers (safe / unsafe / extern "C" / extern "system") and return type of the pattern. -/
theorem C08_kind : arms.all (fun a => a.fakeKind == a.kind && a.coerceKind == a.kind &&
    a.fakeRet == a.matcherRet && a.coerceRet == a.matcherRet && a.kind != FnKind.unknown) = true := by decide +kernel

/-- the finite part: every arm in the table has the right shape -/
theorem C08_shapes : arms.all shapeOK = true := by decide +kernel

/-- **One meaning**: for every arm found in the source and every call environment, the arm
    means what its options say. -/
theorem C08_meaning (a : Arm) (ha : a ∈ arms) (e : Env) : sem a e = refSem (optsOf a) e :=
  shape_meaning a (List.all_eq_true.mp C08_shapes a ha) e

/-- **Budget**: an arm takes a `times` option iff it creates the call-site counter and hands a
    counting verifier to the injector. -/
theorem C08_verifier : arms.all (fun a =>
    (a.optTimes && a.verifier == VerifierK.withCount && a.counterStatic) ||
    (!a.optTimes && a.verifier == VerifierK.dummy)) = true := by decide

/-- **Reachable**: no arm is shadowed by an earlier one — the canonical use of the i-th arm
    selects the i-th arm. -/
theorem C08_reach : (List.range arms.length).all (fun i =>
    match arms[i]? with
    | some a => firstMatch arms (canonicalUse a) == some i
    | none => false) = true := by decide +kernel

/-- unit arms never take `returns`, value arms always do -/
theorem C08_returns : arms.all (fun a => (a.matcherRet == RetTy.unit) != a.optReturns) = true := by decide

end Inj.Props

#print axioms Inj.Props.C08_parsed
#print axioms Inj.Props.C08_scoped
#print axioms Inj.Props.C08_kind
#print axioms Inj.Props.C08_shapes
#print axioms Inj.Props.C08_meaning
#print axioms Inj.Props.C08_verifier
#print axioms Inj.Props.C08_reach
#print axioms Inj.Props.C08_returns
#print axioms Inj.Props.allowed_meaning
#print axioms Inj.Props.shape_meaning
