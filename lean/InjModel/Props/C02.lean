/-
  C02 — dropping the injector restores every faked function, for any install history.
  Machine model: Model/Machine.lean (save / patch / restore of common.rs + patch_amd64.rs +
  injector.rs).  The order in which the guards are dropped is read from the source by the
  translator (Generated.Layout.guardDropOrder).
-/
import InjModel.Lemmas.Machine
import InjModel.Lemmas.Panic
import InjModel.Generated.Layout
namespace Inj.Props
open Inj.Machine Inj.Generated

/-- the drop order the source implements, as extracted -/
def srcDropOrder : DropOrder :=
  match Layout.guardDropOrder with
  | Layout.DropOrderSrc.explicitNewestFirst => DropOrder.newestFirst
  | _ => DropOrder.oldestFirst

/-- **Tie to the source**: `InjectorPP` restores its guards newest first. -/
theorem C02_source_restores_newest_first : srcDropOrder = DropOrder.newestFirst := by decide

/-- **Restoration, any history.**  For every install history `rs` (targets with repetition, any
    payload kinds, overlapping entry ranges allowed) through one injector created in a state
    with no guards, dropping the injector gives back: every byte of memory outside the
    trampoline pages (which are unmapped), the original set of mappings, an empty guard list,
    and no fault.  Hypotheses are only what the OS guarantees: each trampoline page is fresh
    and does not overlap the entry range it serves.  (`hdis`, the second of these, is not needed:
    `installs_restore`.) -/
theorem C02_restores (mode : Mode) (rs : List Req) (s0 sf : MState)
    (hg : s0.guards = []) (h : installs mode s0 rs = some sf)
    (hdis : ∀ r ∈ rs, ∀ x, inJit r x → ¬ inSlot r x) (hfresh : FreshMaps s0.maps rs) :
    let s' := dropInjector srcDropOrder sf
    (∀ x, (∀ r ∈ rs, ¬ inJit r x) → s'.mem x = s0.mem x) ∧ s'.maps = s0.maps ∧ s'.guards = [] ∧
      s'.fault = s0.fault := by
  obtain ⟨gs, hgs, _, hmem, hmaps, hfault⟩ := installs_undo mode rs s0 sf h hdis hfresh
  rw [hg, List.nil_append] at hgs
  simp only [C02_source_restores_newest_first, dropInjector, logEv, hgs]
  exact ⟨hmem, hmaps, trivial, (dropGuards_fault _ _).trans hfault⟩

/-- corollary: every entry range that lies outside the trampoline pages is byte-for-byte what
    it was -/
theorem C02_entry_bytes (mode : Mode) (rs : List Req) (s0 sf : MState)
    (hg : s0.guards = []) (h : installs mode s0 rs = some sf)
    (hdis : ∀ r ∈ rs, ∀ r' ∈ rs, ∀ x, inJit r x → ¬ inSlot r' x) (hfresh : FreshMaps s0.maps rs) :
    ∀ r ∈ rs, readMem (dropInjector srcDropOrder sf).mem r.func 12 = readMem s0.mem r.func 12 := by
  intro r hr
  apply readMem_congr
  intro x h1 h2
  exact (C02_restores mode rs s0 sf hg h (fun r hr x hx => hdis r hr r hr x hx) hfresh).1 x
    (fun r' hr' hj => hdis r' hr' r hr x hj ⟨h1, h2⟩)

/-- consecutive lifetimes: a second history run from the restored state sees the same memory
    outside trampoline pages (so the theorem applies again, any number of times) -/
theorem C02_lifetimes (mode : Mode) (rs : List Req) (s0 sf : MState)
    (hg : s0.guards = []) (h : installs mode s0 rs = some sf)
    (hdis : ∀ r ∈ rs, ∀ x, inJit r x → ¬ inSlot r x) (hfresh : FreshMaps s0.maps rs) :
    (dropInjector srcDropOrder sf).guards = [] ∧ (dropInjector srcDropOrder sf).maps = s0.maps :=
  ⟨(C02_restores mode rs s0 sf hg h hdis hfresh).2.2.1, (C02_restores mode rs s0 sf hg h hdis hfresh).2.1⟩

/-- **While the injector lives, the most recent installation for a function is the one in
    effect**: in any history `pre ++ [r] ++ post` in which no later request touches `r`'s entry
    range or trampoline page, a call of `r.func` after the whole history reaches `r`'s fake.
    (Of `hdis` only the instance for `r` itself is needed, and `hfresh` and `hf` not at all.) -/
theorem C02_latest_wins (mode : Mode) (pre post : List Req) (func fake jit : Nat) (s0 sf : MState)
    (h : installs mode s0 (pre ++ Req.mk func (Payload.exec fake) jit :: post) = some sf)
    (hdis : ∀ r ∈ pre ++ Req.mk func (Payload.exec fake) jit :: post, ∀ x, inJit r x → ¬ inSlot r x)
    (hfresh : FreshMaps s0.maps (pre ++ Req.mk func (Payload.exec fake) jit :: post))
    (hsep : ∀ r ∈ post, ∀ x, (func ≤ x ∧ x < func + 12) ∨ (jit ≤ x ∧ x < jit + 4096) → ¬ inJit r x ∧ ¬ inSlot r x)
    (hf : func < 18446744073709551616) (hj : jit < 18446744073709551616) (hk : fake < 18446744073709551616)
    (c : X86.Cpu) (hc : c.rip = func) :
    ∃ k c', k ≤ 4 ∧ X86.run sf.mem k c = some c' ∧ c'.rip = fake ∧ SameButRax c c' :=
  redirects_reaches hj hk (latest_wins h (hdis ⟨func, Payload.exec fake, jit⟩ (by simp)) hsep) c hc

/-- **Tie to the source (exit paths)**: the body of `Drop::drop` for `InjectorPP` begins with the
    newest-first restore loop — nothing that can panic (a verifier) or let the lock go runs
    before or instead of it — and the verifier stays silent while unwinding. -/
theorem C02_source_exit :
    Layout.injectorDropBody = Layout.Field.guards :: Layout.injectorDropBody.tail ∧
    Layout.injectorDropBody.tail.contains Layout.Field.lock = false ∧
    Layout.verifierChecksPanicking = true := by decide

/-- **Restoration on every kind of scope exit.**  However the scope is left — normally, by
    unwinding from a panic in the body (`panicking = true`), or with call-count verification
    raising its own panic on the way out (any pending expectations `verifs`, satisfied or not) —
    the two-phase release the language prescribes (the `Drop::drop` body as extracted, then the
    fields in declaration order, a non-empty `Vec<PatchGuard>` dropping oldest first) never
    aborts and gives back memory, mappings and guards exactly as `C02_restores` states. -/
theorem C02_any_exit (mode : Mode) (rs : List Req) (s0 sf : MState)
    (hg : s0.guards = []) (h : installs mode s0 rs = some sf)
    (hdis : ∀ r ∈ rs, ∀ x, inJit r x → ¬ inSlot r x) (hfresh : FreshMaps s0.maps rs)
    (verifs : List Panic.Verif) (panicking : Bool) :
    let e := Panic.scopeExit2 srcDropOrder Layout.verifierChecksPanicking Layout.injectorDropBody
      Layout.injectorFields ⟨sf, verifs, panicking⟩
    e.abort = false ∧ (∀ x, (∀ r ∈ rs, ¬ inJit r x) → e.ms.mem x = s0.mem x) ∧
      e.ms.maps = s0.maps ∧ e.ms.guards = [] := by
  intro e
  obtain ⟨hb, hl, hcp⟩ := C02_source_exit
  obtain ⟨h1, h2, _, _⟩ :=
    Panic.scopeExit2_guards_first srcDropOrder Layout.injectorFields ⟨sf, verifs, panicking⟩ hcp hb hl
  obtain ⟨r1, r2, r3, _⟩ := C02_restores mode rs s0 sf hg h hdis hfresh
  -- `restoreAll_eq`: the state is `dropInjector srcDropOrder sf` with another log, and `r1`–`r3` do not mention the log
  have hms : e.ms = _ := h2.trans (Panic.restoreAll_eq _ _)
  rw [hms]
  exact ⟨h1, r1, r2, r3⟩

/-- the exit-path theorem is about something: with the verifier dropped *before* the restore
    loop, a pending unmet expectation cuts the body short and the field glue restores oldest
    first — a function faked twice is then left patched (the model exhibits it) -/
example :
    let g1 : Guard := Guard.mk 100 [1] 1 0 0
    let g2 : Guard := Guard.mk 100 [2] 1 0 0
    let s : MState := { mem := fun _ => 3, writable := fun _ => true, maps := [], guards := [g1, g2], log := [], fault := false }
    (Panic.scopeExit2 DropOrder.newestFirst true [Layout.Field.verifiers, Layout.Field.guards]
      [Layout.Field.guards, Layout.Field.verifiers, Layout.Field.lock] ⟨s, [(1, 0)], false⟩).ms.mem 100 = 2 := by
  decide

/-- the model's state is complete for the back ends: `injector_core` declares no process-wide or
    thread-local mutable state (regenerated from the source on every run) -/
theorem C02_state_modelled : Generated.Layout.coreStatics = [] := by decide

end Inj.Props

#print axioms Inj.Props.C02_latest_wins
#print axioms Inj.Props.C02_source_restores_newest_first
#print axioms Inj.Props.C02_restores
#print axioms Inj.Props.C02_entry_bytes
#print axioms Inj.Props.C02_lifetimes
#print axioms Inj.Props.C02_source_exit
#print axioms Inj.Props.C02_any_exit
#print axioms Inj.Props.C02_state_modelled
