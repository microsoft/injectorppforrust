/-
  C17 — every code modification is followed by an instruction-cache flush covering it.
  Stated on the event log of the machine model: `flushClean log` says that, processing the
  events in order, every byte written is covered by a later flush (or unmapped) before control
  returns to the user (`ret`).
-/
import InjModel.Generated.Layout
import InjModel.Props.C02
namespace Inj.Props
open Inj.Machine

/-- **Every history, every lifetime.**  Starting from a clean log, the events of any install
    history followed by the drop of the injector (either drop order) keep the log clean:
    at every `ret` no written byte is unflushed. -/
theorem C17_covers (mode : Mode) (rs : List Req) (s0 sf : MState) (ord : DropOrder)
    (hc : flushClean s0.log) (h : installs mode s0 rs = some sf) :
    flushClean sf.log ∧ flushClean (dropInjector ord sf).log := by
  have h1 := installs_flushClean h hc
  refine ⟨h1, ?_⟩
  cases ord <;> exact flushClean_append (ev := [Event.ret]) rfl (dropGuards_flushClean sf _ h1)

/-- each single installation and each single restoration flushes what it wrote (so the
    property also holds between any two operations, not only at the end) -/
theorem C17_each_install (mode : Mode) (s s' : MState) (func : Nat) (p : Payload) (jit : Nat)
    (h : installX86 mode s func p jit = some s') (hc : flushClean s.log) : flushClean s'.log :=
  installX86_flushClean h hc

theorem C17_each_restore (s : MState) (g : Guard) (hc : flushClean s.log) : flushClean (restoreGuard s g).log :=
  restoreGuard_flushClean s g hc

/-- the predicate is not vacuous: a write with no flush before `ret` is rejected, the same
    write followed by a covering flush is accepted -/
example : dirtyAfter [] [Event.write 100 [1, 2, 3], Event.ret] = none := by decide
example : dirtyAfter [] [Event.write 100 [1, 2, 3], Event.flush 100 102, Event.ret] = none := by decide
example : dirtyAfter [] [Event.write 100 [1, 2, 3], Event.flush 100 103, Event.ret] = some [] := by decide

/-- the model's state is complete for the back ends: `injector_core` declares no process-wide or
    thread-local mutable state (regenerated from the source on every run) -/
theorem C17_state_modelled : Generated.Layout.coreStatics = [] := by decide

end Inj.Props

#print axioms Inj.Props.C17_covers
#print axioms Inj.Props.C17_each_install
#print axioms Inj.Props.C17_each_restore
#print axioms Inj.Props.C17_state_modelled
