/-
  C04 — injector and preventer guards are mutually exclusive across threads.
  The protocol is the transition system of Model/Lock.lean over *any* number of threads and
  *any* interleaving (`Reach`); what the source contributes — which constructors take the lock,
  poison recovery, and the order in which an injector lets go (Drop::drop body, then fields in
  declaration order) — is read from injector.rs by the translator (`srcParams`).
-/
import InjModel.Lemmas.Lock
namespace Inj.Props
open Inj.Lock Inj.Generated.Layout

/-- **Tie to the source.**  Both constructors take the same process-wide mutex and keep its guard;
    when an injector lets go, the functions are restored before the mutex is released, and the
    mutex is released exactly once. -/
theorem C04_source_good : GoodParams srcParams := by
  unfold GoodParams SuffixOK
  decide

theorem C04_source_poison_recovered : srcParams.poisonRecovered = true := by decide

/-- **Mutual exclusion**: in every reachable state at most one thread holds a live injector or
    preventer (from the moment `new`/`prevent` returns until its mutex guard is dropped). -/
theorem C04_excl (s : LState) (h : Reach srcParams s) (t1 t2 : Nat)
    (h1 : holdsLock (s.pcs t1) = true) (h2 : holdsLock (s.pcs t2) = true) : t1 = t2 := by
  have hi := reach_inv srcParams C04_source_good s h
  exact Option.some.inj ((hi.lockOwner t1 h1).symm.trans (hi.lockOwner t2 h2))

/-- **A preventer holder observes the original** for as long as it holds, whatever other threads
    attempt meanwhile. -/
theorem C04_preventer_sees_original (s : LState) (h : Reach srcParams s) (t : Nat) (i : Bool)
    (hp : s.pcs t = Pc.holding Kind.preventer i) : s.fn = none := by
  rw [(reach_inv srcParams C04_source_good s h).holder_sees (by rw [hp]; rfl), hp]
  rfl

/-- **An injector holder observes exactly its own fakes**: after it installed, the shared function
    is its fake; before, it is the original — never another thread's fake. -/
theorem C04_injector_sees_own (s : LState) (h : Reach srcParams s) (t : Nat) (i : Bool)
    (hp : s.pcs t = Pc.holding Kind.injector i) : s.fn = if i then some t else none := by
  rw [(reach_inv srcParams C04_source_good s h).holder_sees (by rw [hp]; rfl), hp]
  cases i <;> rfl

/-- **No fake outlives its lock**: whenever nobody holds the mutex, the function is the original
    (so whoever gets the mutex next starts from original behaviour). -/
theorem C04_free_means_original (s : LState) (h : Reach srcParams s) (hfree : s.owner = none) : s.fn = none :=
  (reach_inv srcParams C04_source_good s h).free_original hfree

/-- **Hand-over**: once the mutex is free — whether the previous holder let go by scope exit or
    by unwinding (poisoned) — every idle thread's `new()` / `prevent()` is enabled. -/
theorem C04_handover (s : LState) (hfree : s.owner = none) (u : Nat) (k : Kind) (hidle : s.pcs u = Pc.idle) :
    ∃ s', step srcParams s (Action.acquire u k) = some s' ∧ s'.owner = some u :=
  handover srcParams C04_source_good s (Or.inr C04_source_poison_recovered) hfree u k hidle

/-- a holder that starts letting go reaches the idle state after finitely many of its own
    micro-steps (one per entry of the release order, plus one) -/
theorem C04_release_completes : ∀ (rest : List Field) (s : LState) (t : Nat) (k : Kind) (i : Bool) (how : How),
    s.pcs t = Pc.releasing k i rest how →
    (run srcParams s (List.replicate (rest.length + 1) (Action.micro t))).pcs t = Pc.idle :=
  release_completes srcParams

/-- non-vacuity: a two-thread schedule in which thread 1 waits for thread 0 -/
example : (run srcParams init [Action.acquire 0 Kind.injector, Action.install 0, Action.acquire 1 Kind.preventer,
    Action.beginRelease 0 How.panic none, Action.micro 0, Action.micro 0, Action.micro 0, Action.micro 0,
    Action.acquire 1 Kind.preventer]).owner = some 1 := by decide

end Inj.Props

#print axioms Inj.Props.C04_source_good
#print axioms Inj.Props.C04_source_poison_recovered
#print axioms Inj.Props.C04_excl
#print axioms Inj.Props.C04_preventer_sees_original
#print axioms Inj.Props.C04_injector_sees_own
#print axioms Inj.Props.C04_free_means_original
#print axioms Inj.Props.C04_handover
#print axioms Inj.Props.C04_release_completes
