/-
  C01 — a call to a faked function reaches the fake from every address placement.
  Property theorems only (helper lemmas live in InjModel/Lemmas).
-/
import InjModel.Generated.Layout
import InjModel.Lemmas.X86
import InjModel.Lemmas.Machine
namespace Inj.Props
open Inj.X86

/-- **Encoder + ISA.**  For every pair of 64-bit addresses, in either build profile, the bytes
    `generate_branch_to_target_function` returns, placed at `ori` in any memory and executed by
    the independent ISA fragment from any CPU state, transfer control to exactly `target` in at
    most two instructions, changing nothing but rip (and rax in the long form).  When the
    function does not return bytes it panicked (nothing is emitted).  (`ho` is not needed.) -/
theorem C01_branch_lands (mode : Mode) (ori target : Nat)
    (ho : ori < 18446744073709551616) (ht : target < 18446744073709551616) :
    (∃ why, genBranch mode ori target = Res.panic why) ∨
    (∃ bs, genBranch mode ori target = Res.ok bs ∧ (bs.length = 5 ∨ bs.length = 12) ∧
      ∀ (m : Nat → Nat) (c : Cpu), Holds m ori bs → c.rip = ori →
        (run m 1 c = some { c with rip := target }) ∨
        (run m 2 c = some { c with rip := target, gpr := setReg c.gpr 0 target })) := by
  cases h : genBranch mode ori target with
  | panic why => left; exact ⟨why, rfl⟩
  | ok bs =>
    right
    refine ⟨bs, rfl, genBranch_length h, ?_⟩
    intro m c hm hc
    exact genBranch_run ht h hm c hc

/-- A release build never refuses: every address pair gets a branch. -/
theorem C01_release_total (ori target : Nat) :
    ∃ bs, genBranch Mode.release ori target = Res.ok bs := by
  rw [genBranch_eq_lit]; unfold genBranchLit
  simp only [show ¬ (Mode.release = Mode.debug) by decide, false_and, if_false]
  split
  · exact ⟨_, rfl⟩
  · exact ⟨_, rfl⟩

/-- **Installed state, any placement.**  After a successful installation of a fake for `func`
    with the trampoline at `jit` — for *every* function address (any in-page offset, including
    entries that span two pages), every trampoline address and every fake address, the only
    layout assumption being that the fresh trampoline page does not overlap the entry bytes —
    executing from `func` in any CPU state reaches exactly `fake` within four instructions,
    nothing but rip and rax having changed; and the installation itself did not fault.
    (`hf` is not needed: only the two branch targets have to be 64-bit values.) -/
theorem C01_reach (mode : Mode) (s s1 : Machine.MState) (func fake jit : Nat)
    (h : Machine.installX86 mode s func (Machine.Payload.exec fake) jit = some s1)
    (hdis : ∀ x, (jit ≤ x ∧ x < jit + 4096) → ¬ (func ≤ x ∧ x < func + 12))
    (hf : func < 18446744073709551616) (hj : jit < 18446744073709551616) (hk : fake < 18446744073709551616)
    (c : Cpu) (hc : c.rip = func) :
    (∃ k c', k ≤ 4 ∧ run s1.mem k c = some c' ∧ c'.rip = fake ∧ Machine.SameButRax c c') ∧
    s1.fault = s.fault := by
  refine ⟨Machine.redirects_reaches hj hk (Machine.installX86_redirects h hdis) c hc, ?_⟩
  obtain ⟨_, _, _, _, rfl⟩ := Machine.installX86_eq h
  rfl

/-- **Loud or done.**  A release build never refuses an installation once the trampoline is
    allocated; a debug build refuses only by a panic of an encoder (signed overflow), in which
    case the model has no successor state: nothing was written at `func`. -/
theorem C01_install_total_release (s : Machine.MState) (func jit : Nat) (p : Machine.Payload) :
    ∃ s1, Machine.installX86 Mode.release s func p jit = some s1 := by
  unfold Machine.installX86
  obtain ⟨br, hbr⟩ := C01_release_total func jit
  cases p with
  | exec fake =>
    obtain ⟨code, hcode⟩ := C01_release_total jit fake
    simp only [Machine.payloadCode, hcode, hbr]
    exact ⟨_, rfl⟩
  | bool v =>
    simp only [Machine.payloadCode, hbr]
    exact ⟨_, rfl⟩

/-- non-vacuity: a short, a long and a boundary placement -/
example : genBranch Mode.debug 0x1000 0x2000 = Res.ok [0xE9, 0xFB, 0x0F, 0, 0] := by decide
example : genBranch Mode.debug 0x1000 0x80001005 = Res.ok [0x48, 0xB8, 5, 0x10, 0, 0x80, 0, 0, 0, 0, 0xFF, 0xE0] := by decide
example : genBranch Mode.debug 0x1000 0x80001004 = Res.ok [0xE9, 0xFF, 0xFF, 0xFF, 0x7F] := by decide

/-- the model's state is complete for the back ends: `injector_core` declares no process-wide or
    thread-local mutable state (regenerated from the source on every run) -/
theorem C01_state_modelled : Generated.Layout.coreStatics = [] := by decide

end Inj.Props

#print axioms Inj.Props.C01_branch_lands
#print axioms Inj.Props.C01_release_total
#print axioms Inj.Props.C01_reach
#print axioms Inj.Props.C01_install_total_release
#print axioms Inj.Props.C01_state_modelled
