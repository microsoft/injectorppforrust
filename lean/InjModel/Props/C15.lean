/-
  C15 — AArch64 patches decode to a branch to exactly the fake, for all addresses.
  The emitters are built from the bit-source sequences and constants the translator read from
  arm64_codegenerator.rs / patch_arm64.rs (Generated/Consts.lean); `decode`/`exec` are the
  independent ISA fragment of Model/A64.lean.
-/
import InjModel.Generated.Layout
import InjModel.Lemmas.A64
namespace Inj.Props
open Inj.A64 Inj.Generated

/-- every constant the model needs was found in the source -/
theorem C15_consts_found : Consts.missing = [] := by decide

/-- **Trampoline.**  For every 64-bit fake address the five words decode to
    `movz x9,#a0; movk x9,#a1,lsl 16; movk x9,#a2,lsl 32; movk x9,#a3,lsl 48; br x9`, and executing
    them from any state ends with pc = fake, x9 = fake and every other register unchanged. -/
theorem C15_tramp (fake : Nat) (h : fake < 18446744073709551616) (c : Cpu) :
    (tramp fake).map decode =
      [Instr.movz 9 (chunk fake 0) 0, Instr.movk 9 (chunk fake 16) 1, Instr.movk 9 (chunk fake 32) 2,
       Instr.movk 9 (chunk fake 48) 3, Instr.br 9] ∧
    execList ((tramp fake).map decode) c = some { pc := fake, x := setX c.x 9 fake } :=
  ⟨tramp_decodes fake, by rw [tramp_decodes, execList_tramp, chunks_rebuild fake h]⟩

/-- **Registers.**  The only register the trampoline writes is x9, a caller-saved temporary
    that carries no argument (x9 … x17). -/
theorem C15_tramp_regs (fake : Nat) :
    ∀ r ∈ ((tramp fake).map decode).flatMap writes, 9 ≤ r ∧ r ≤ 17 := by
  rw [tramp_decodes]
  intro r hr
  simp [writes] at hr
  omega

/-- **Forced boolean.**  `movz x0,#v; ret`: x0 = v, pc = x30, nothing else written. -/
theorem C15_bool (v : Bool) (c : Cpu) :
    execList ((boolStub v).map decode) c = some { pc := c.x 30, x := setX c.x 0 (if v then 1 else 0) } := by
  rw [boolStub_decodes]
  simp only [execList, exec]
  rw [setX_other _ _ _ _ (by decide)]
  simp

/-- **Entry, Linux.**  For word-aligned user-space addresses: within ±128 MiB (B's reach,
    [-2^27, 2^27-4]) the first word decodes to `B` whose destination is exactly the trampoline
    and the two following words are NOP; outside it the installation is refused (panic), never
    wrapped. -/
theorem C15_entry_linux (func jit : Nat) (hf : func < 9223372036854775808) (hj : jit < 9223372036854775808)
    (af : func % 4 = 0) (aj : jit % 4 = 0) :
    ((-134217728 ≤ (jit : Int) - func ∧ (jit : Int) - func < 134217728) →
      ∃ imm26, entryLinux func jit = Res.ok [335544320 + imm26, 3573751839, 3573751839] ∧
        decode (335544320 + imm26) = Instr.b imm26 ∧ decode 3573751839 = Instr.nop ∧
        wrap64 ((func : Int) + sext 26 imm26 * 4) = jit) ∧
    (¬ (-134217728 ≤ (jit : Int) - func ∧ (jit : Int) - func < 134217728) →
      ∃ why, entryLinux func jit = Res.panic why) := by
  have al : ((jit : Int) - func) % 4 = 0 :=
    Int.emod_eq_zero_of_dvd (Int.dvd_sub (Int.natCast_dvd_natCast.2 (Nat.dvd_of_mod_eq_zero aj))
      (Int.natCast_dvd_natCast.2 (Nat.dvd_of_mod_eq_zero af)))
  rw [entryLinux_eq func jit hf hj al]
  constructor
  · intro hr
    rw [if_pos hr]
    exact ⟨_, rfl, decode_b _ (Nat.mod_lt _ (by decide)), decode_nop, b_lands func jit (Nat.lt_trans hj (by decide)) al hr⟩
  · intro hr
    rw [if_neg hr]
    exact ⟨_, rfl⟩

/-- **Entry, macOS, direct form.** -/
theorem C15_entry_macos_near (pc target : Nat) (hp : pc < 9223372036854775808) (ht : target < 9223372036854775808)
    (al : ((target : Int) - pc) % 4 = 0)
    (hr : -134217728 ≤ (target : Int) - pc ∧ (target : Int) - pc < 134217728) (c : Cpu) :
    ∃ w, entryMacos pc target = [w, 3573751839, 3573751839] ∧
      exec (decode w) { c with pc := pc } = some { c with pc := target } := by
  -- `hp` is not used: only the target has to be a 64-bit address
  unfold entryMacos
  simp only [Consts.a64Nop]
  rw [if_pos hr]
  refine ⟨_, rfl, ?_⟩
  rw [decode_b _ (Nat.mod_lt _ (by decide))]
  simp only [exec, b_lands pc target (Nat.lt_trans ht (by decide)) al hr]

/-- **Entry, macOS, long form.**  `ADRP x16; ADD x16,x16,#lo12; BR x16` reaches exactly the
    target for every pair whose page distance fits ADRP's signed 21 bits (±4 GiB); x16 only. -/
theorem C15_entry_macos_far (pc target : Nat) (hp : pc < 9223372036854775808) (ht : target < 9223372036854775808)
    (hn : ¬ (-134217728 ≤ (target : Int) - pc ∧ (target : Int) - pc < 134217728))
    (hr : -1048576 ≤ ((target / 4096 : Nat) : Int) - (pc / 4096 : Nat) ∧ ((target / 4096 : Nat) : Int) - (pc / 4096 : Nat) < 1048576)
    (c : Cpu) :
    execList ((entryMacos pc target).map decode) { c with pc := pc } =
      some { pc := target, x := setX c.x 16 target } := by
  unfold entryMacos
  simp only [Consts.a64AdrpBase, Consts.a64AddBase, Consts.a64BrBase, Consts.a64LongReg]
  rw [if_neg hn]
  simp only [List.map]
  rw [decode_adrp _ _ 16 (Nat.mod_lt _ (by decide)) (Nat.mod_lt _ (by decide)) (by decide),
    decode_add _ 16 16 (Nat.mod_lt _ (by decide)) (by decide) (by decide), decode_br_x16]
  simp only [execList, exec]
  -- `if_neg`: the ADD is unshifted (`sh = 0`)
  rw [setX_same, setX_setX, setX_same, if_neg Nat.zero_ne_one, pageDiff_eq pc target hp ht, sext21_ofInt64 _ hr.1 hr.2,
    adrp_add pc target (Nat.lt_trans ht (by decide))]

/-- corollary for what the macOS allocator can return (±2 GiB): always inside the long form's reach -/
theorem C15_macos_alloc_range (pc target : Nat)
    (h : -2147483648 ≤ (target : Int) - pc ∧ (target : Int) - pc ≤ 2147483648) :
    -1048576 ≤ ((target / 4096 : Nat) : Int) - (pc / 4096 : Nat) ∧ ((target / 4096 : Nat) : Int) - (pc / 4096 : Nat) < 1048576 := by
  omega

/-- non-vacuity: concrete instances of the hypotheses -/
example : entryLinux 0x200000000 0x207FFFFFC = Res.ok [0x15FFFFFF, 3573751839, 3573751839] := by decide
example : entryLinux 0x200000000 0x208000000 = Res.panic "JIT memory is out of branch range" := rfl
example : (tramp 0x1122334455667788).map decode =
    [Instr.movz 9 0x7788 0, Instr.movk 9 0x5566 1, Instr.movk 9 0x3344 2, Instr.movk 9 0x1122 3, Instr.br 9] := by decide

/-- the model's state is complete for the back ends: `injector_core` declares no process-wide or
    thread-local mutable state (regenerated from the source on every run) -/
theorem C15_state_modelled : Generated.Layout.coreStatics = [] := by decide

end Inj.Props

#print axioms Inj.Props.C15_consts_found
#print axioms Inj.Props.C15_tramp
#print axioms Inj.Props.C15_tramp_regs
#print axioms Inj.Props.C15_bool
#print axioms Inj.Props.C15_entry_linux
#print axioms Inj.Props.C15_entry_macos_near
#print axioms Inj.Props.C15_entry_macos_far
#print axioms Inj.Props.C15_macos_alloc_range
#print axioms Inj.Props.C15_state_modelled
