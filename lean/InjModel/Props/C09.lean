/-
  C09 — type-checked installation refuses every structurally different signature.
  The gate is string equality of the `type_name` renderings recorded by `func!`/`closure!`/
  `fake!`/`async_*!` (Model/Sig.lean: token level, lifetimes not rendered).
-/
import InjModel.Lemmas.Sig
import InjModel.Lemmas.SigInj
namespace Inj.Props
open Inj.Sig

/-- **Tie to the source**: both type-checked entry points compare the two recorded signatures
    before they patch; `will_execute` goes through the same gate; the unchecked entry points
    carry the empty signature; `FuncPtr::new` rejects null. -/
theorem C09_source : Generated.Layout.rawGateBeforeGuard = true ∧ Generated.Layout.asyncGateBeforeGuard = true ∧
    Generated.Layout.willExecuteGoesThroughRaw = true ∧ Generated.Layout.uncheckedCarriesEmptySig = true ∧
    Generated.Layout.funcPtrRejectsNull = true := by decide

/-- **The gate is exactly equality of the recorded renderings.** -/
theorem C09_gate (a b : List Tok) : gate a b = true ↔ a = b := by
  unfold gate; exact beq_iff_eq

/-- **The rendering is injective on the whole grammar** (primitive/path types, references and raw
    pointers of either mutability, tuples incl. 1-tuples, slices, arrays, generic applications,
    `dyn Fn(..) -> ..`, nested function pointers of any unsafety and ABI): two function-pointer
    types print the same token list only if they are the same type.  (For a type that is not a function
    pointer: `Sig.render_injective`.) -/
theorem C09_render_injective (a b : FnTy) (h : renderFn a = renderFn b) : a = b :=
  renderFn_injective h

/-- **Accept iff structurally identical** — for all function-pointer types of the grammar. -/
theorem C09_gate_iff (a b : FnTy) : gate (renderFn a) (renderFn b) = true ↔ a = b := by
  rw [C09_gate]
  exact ⟨C09_render_injective a b, fun h => by rw [h]⟩

/-- every rendered function-pointer type contains the `fn` keyword: it is never the empty text -/
theorem renderFn_ne_nil (f : FnTy) : renderFn f ≠ [] := by
  obtain ⟨tl, e⟩ := renderFn_head f
  rw [e]
  nofun

/-- **Typed paired with unchecked is always refused**, whichever side carries the type: the
    unchecked macros record `""`, which no rendered type equals. -/
theorem C09_unchecked_mix (f : FnTy) : gate (renderFn f) [] = false ∧ gate [] (renderFn f) = false :=
  ⟨beq_eq_false_iff_ne.mpr (renderFn_ne_nil f), beq_eq_false_iff_ne.mpr (renderFn_ne_nil f).symm⟩

/-- **Identical writing is accepted** -/
theorem C09_same_accepted (f : FnTy) : gate (renderFn f) (renderFn f) = true := (C09_gate _ _).mpr rfl

/-- **Differences the property names are visible in the rendering** (so the gate refuses them):
    unsafety, ABI and reference mutability each change the token list (so does everything else: `C09_render_injective`). -/
theorem C09_unsafety_visible (abi : Nat) (ps : TyList) (r : Ty) :
    renderFn (FnTy.mk true abi ps r) ≠ renderFn (FnTy.mk false abi ps r) :=
  fun e => nomatch C09_render_injective _ _ e

theorem C09_abi_visible (u : Bool) (abi : Nat) (ps : TyList) (r : Ty) (h : abi ≠ 0) :
    renderFn (FnTy.mk u abi ps r) ≠ renderFn (FnTy.mk u 0 ps r) :=
  fun e => h (FnTy.mk.inj (C09_render_injective _ _ e)).2.1

/-- reference mutability is visible -/
theorem C09_mutability_visible (t : Ty) : render (Ty.ref true t) ≠ render (Ty.ref false t) :=
  fun e => nomatch render_injective e

end Inj.Props

#print axioms Inj.Props.C09_source
#print axioms Inj.Props.C09_gate
#print axioms Inj.Props.C09_render_injective
#print axioms Inj.Props.C09_gate_iff
#print axioms Inj.Props.renderFn_ne_nil
#print axioms Inj.Props.C09_unchecked_mix
#print axioms Inj.Props.C09_same_accepted
#print axioms Inj.Props.C09_unsafety_visible
#print axioms Inj.Props.C09_abi_visible
#print axioms Inj.Props.C09_mutability_visible
