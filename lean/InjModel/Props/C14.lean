/-
  C14 — faked async functions complete at once with the value; others are untouched.
  Faking an async function is an ordinary installation at the entry of the concrete future's
  `poll` (injector.rs `when_called_async`), so the machine-level theorems apply with
  func := poll entry, fake := the generated `fn() -> Poll<T>`.  What the model cannot exhibit is
  stated in DESIGN.md (monomorphisation gives every future type its own `poll`; ABI
  compatibility of `fn() -> Poll<T>` with `poll(Pin<&mut F>, &mut Context)`).
-/
import InjModel.Model.Async
import InjModel.Props.C02
import InjModel.Props.C03
import InjModel.Props.C09
namespace Inj.Props
open Inj.Machine Inj.Async

/-- **First poll reaches the generated ready-function.**  In any install history through one
    injector, if the last request on the poll entry `p` installs ready-function `f` (re-fakes and
    fakes of sibling async functions before it are arbitrary; later requests touch neither `p`'s
    entry bytes nor its trampoline), then a poll of that future — a call of `p` in any CPU state —
    transfers control to `f` within four instructions, before any byte of the original body
    runs, with every argument register unchanged. -/
theorem C14_first_poll_reaches_value (mode : Mode) (pre post : List Req) (p f jit : Nat) (s0 sf : MState)
    (h : installs mode s0 (pre ++ Req.mk p (Payload.exec f) jit :: post) = some sf)
    (hdis : ∀ r ∈ pre ++ Req.mk p (Payload.exec f) jit :: post, ∀ x, inJit r x → ¬ inSlot r x)
    (hfresh : FreshMaps s0.maps (pre ++ Req.mk p (Payload.exec f) jit :: post))
    (hsep : ∀ r ∈ post, ∀ x, (p ≤ x ∧ x < p + 12) ∨ (jit ≤ x ∧ x < jit + 4096) → ¬ inJit r x ∧ ¬ inSlot r x)
    (hp : p < 18446744073709551616) (hj : jit < 18446744073709551616) (hf : f < 18446744073709551616)
    (c : X86.Cpu) (hc : c.rip = p) :
    ∃ k c', k ≤ 4 ∧ X86.run sf.mem k c = some c' ∧ c'.rip = f ∧ SameButRax c c' :=
  C02_latest_wins mode pre post p f jit s0 sf h hdis hfresh hsep hp hj hf c hc

/-- **Siblings are untouched**: the `poll` entry of an async function that no request names
    (same output type or not) keeps every one of its bytes through the whole history. -/
theorem C14_siblings_untouched (mode : Mode) (rs : List Req) (s0 sf : MState) (q : Nat)
    (h : installs mode s0 rs = some sf)
    (hdis : ∀ r ∈ rs, ∀ x, inJit r x → ¬ inSlot r x) (hfresh : FreshMaps s0.maps rs)
    (hq : ∀ r ∈ rs, ∀ x, q ≤ x → x < q + 16 → ¬ inJit r x ∧ ¬ inSlot r x) :
    readMem sf.mem q 16 = readMem s0.mem q 16 := by
  apply readMem_congr
  intro x h1 h2
  exact C03_frame_install mode rs s0 sf h hdis hfresh x (fun r hr => hq r hr x h1 h2)

/-- **Back to the original once the injector is gone**, for every poll entry that was faked. -/
theorem C14_after_drop (mode : Mode) (rs : List Req) (s0 sf : MState)
    (hg : s0.guards = []) (h : installs mode s0 rs = some sf)
    (hdis : ∀ r ∈ rs, ∀ r' ∈ rs, ∀ x, inJit r x → ¬ inSlot r' x) (hfresh : FreshMaps s0.maps rs) :
    ∀ r ∈ rs, readMem (dropInjector srcDropOrder sf).mem r.func 12 = readMem s0.mem r.func 12 :=
  C02_entry_bytes mode rs s0 sf hg h hdis hfresh

/-- **Async gate**: `fn() -> Poll<T>` against `fn() -> Poll<U>` is accepted exactly when the
    two output types render identically. -/
theorem C14_gate (pollId : Nat) (t u : Sig.Ty) :
    Sig.gate (Sig.renderFn (Sig.FnTy.mk false 0 Sig.TyList.nil (Sig.Ty.app pollId (Sig.TyList.cons t Sig.TyList.nil))))
             (Sig.renderFn (Sig.FnTy.mk false 0 Sig.TyList.nil (Sig.Ty.app pollId (Sig.TyList.cons u Sig.TyList.nil)))) = true
      ↔ Sig.render t = Sig.render u := by
  rw [C09_gate]
  simp [Sig.renderFn, Sig.renderRet, Sig.render, Sig.renderArgs]

/-- **Abstract behaviour**: in the await-level model an await of a function faked since the last
    drop completes on poll 1 with the latest value and never runs the body; otherwise it is the
    original — for every history. -/
theorem C14_await_spec (origPolls : Nat → Nat) (s : State) (i : Nat) :
    (∀ site, lookup s i = some site →
        awaitObs origPolls s i = { polls := 1, fakedBy := some site, bodyRuns := 0, valueEvals := 1 }) ∧
    (lookup s i = none →
        awaitObs origPolls s i = { polls := origPolls i, fakedBy := none, bodyRuns := 1, valueEvals := 0 }) := by
  constructor
  · intro site h; simp [awaitObs, h]
  · intro h; simp [awaitObs, h]

/-- the latest fake wins and a drop clears everything -/
theorem C14_latest_and_drop (origPolls : Nat → Nat) (s : State) (i a b : Nat) :
    lookup ((step origPolls ((step origPolls s (Op.fake i a)).1) (Op.fake i b)).1) i = some b ∧
    lookup ((step origPolls s Op.drop).1) i = none := by
  simp [step, lookup]

end Inj.Props

#print axioms Inj.Props.C14_first_poll_reaches_value
#print axioms Inj.Props.C14_siblings_untouched
#print axioms Inj.Props.C14_after_drop
#print axioms Inj.Props.C14_gate
#print axioms Inj.Props.C14_await_spec
#print axioms Inj.Props.C14_latest_and_drop
