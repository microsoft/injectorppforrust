/-
  C06 — `times: N` admits exactly N matching calls and is verified at scope exit.
  A schedule is the linearisation order of the calls (the counter update is one atomic
  fetch_add), so "every interleaving over any number of threads" = "every list of calls".
  The link from each macro arm to this counter model is C08 (`FakeArm.sem` of every `times`
  arm is `fetchAddPrev; ifPrevGeExpectedPanicOver; …`).
-/
import InjModel.Lemmas.Counter
import InjModel.Generated.Layout
import InjModel.Generated.FakeArms
namespace Inj.Props
open Inj.Counter

/-- **Admission**: in every schedule, a matching call returns normally iff fewer than N matching
    calls precede it, and panics "called more times" otherwise. -/
theorem C06_admit (n : Nat) (pre post : List Bool) :
    (runCalls n 0 (pre ++ true :: post)).1.getD pre.length CallOut.ok =
      (if countTrue pre < n then CallOut.ok else CallOut.panicOver) := by
  rw [runCalls_at, call_true, Nat.zero_add]

/-- **Rejection**: a call whose arguments fail `when` always panics "unexpected arguments" … -/
theorem C06_reject (n : Nat) (pre post : List Bool) :
    (runCalls n 0 (pre ++ false :: post)).1.getD pre.length CallOut.ok = CallOut.panicUnexpected := by
  rw [runCalls_at]; rfl

/-- … and is not counted: the counter ends at the number of matching calls, whatever the
    interleaving with non-matching ones. -/
theorem C06_final (n : Nat) (sched : List Bool) : (runCalls n 0 sched).2 = countTrue sched := by
  rw [runCalls_cnt]; omega

/-- **Exactness under any split**: the numbers of admitted / over-budget / rejected calls depend
    only on how many matching (k) and non-matching calls there are, not on their order —
    hence not on how they are spread over threads. -/
theorem C06_split (n : Nat) (sched : List Bool) :
    countOut CallOut.ok (runCalls n 0 sched).1 = min (countTrue sched) n ∧
    countOut CallOut.panicOver (runCalls n 0 sched).1 = countTrue sched - min (countTrue sched) n ∧
    countOut CallOut.panicUnexpected (runCalls n 0 sched).1 = sched.length - countTrue sched := by
  have h1 := runCalls_ok n 0 sched
  obtain ⟨h2, h3⟩ := runCalls_tally n 0 sched
  rw [Nat.sub_zero] at h1
  rw [← h1]
  exact ⟨rfl, Nat.eq_sub_of_add_eq' h2, Nat.eq_sub_of_add_eq h3⟩

/-- the verifier as written in verifier.rs tests `panicking()` before it panics -/
theorem C06_source_verifier : Generated.Layout.verifierChecksPanicking = true ∧
    Generated.Layout.verifierComparesNe = true ∧ Generated.Layout.verifierLoadsCounter = true := by decide

/-- **Tie to the source, every arm**: each `fake!` arm that takes `times` starts its admitted
    branch with the single atomic `fetch_add` followed by the `prev >= N` test — nothing is read
    or written between taking the previous value and incrementing (a load-then-store update
    would be extracted as unknown statements and fail here). -/
theorem C06_arms_atomic : Generated.FakeArms.arms.all (fun a =>
    !a.optTimes || (a.thenStmts.take 2 == [Generated.FakeArms.Stmt.fetchAddPrev, Generated.FakeArms.Stmt.ifPrevGeExpectedPanicOver]
      && a.verifier == Generated.FakeArms.VerifierK.withCount && a.counterStatic)) = true := by decide

/-- **Scope exit**: not unwinding — panics iff the count differs from N, naming both numbers;
    already unwinding — never panics. -/
theorem C06_exit (n k : Nat) :
    (verifierDrop Generated.Layout.verifierChecksPanicking n k false = ExitOut.panicMismatch n k ↔ k ≠ n) ∧
    (verifierDrop Generated.Layout.verifierChecksPanicking n k false = ExitOut.ok ↔ k = n) ∧
    verifierDrop Generated.Layout.verifierChecksPanicking n k true = ExitOut.ok := by
  rw [C06_source_verifier.1]
  unfold verifierDrop
  by_cases h : k = n <;> simp [h]

/-- non-vacuity -/
example : (runCalls 2 0 [true, false, true, true]).1 =
    [CallOut.ok, CallOut.panicUnexpected, CallOut.ok, CallOut.panicOver] := by decide

end Inj.Props

#print axioms Inj.Props.C06_admit
#print axioms Inj.Props.C06_reject
#print axioms Inj.Props.C06_final
#print axioms Inj.Props.C06_split
#print axioms Inj.Props.C06_source_verifier
#print axioms Inj.Props.C06_exit
#print axioms Inj.Props.C06_arms_atomic
