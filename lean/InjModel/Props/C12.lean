/-
  C12 — no trampoline mapping is leaked or freed twice over any number of cycles.
-/
import InjModel.Generated.Layout
import InjModel.Props.C02
namespace Inj.Props
open Inj.Machine

/-- one whole lifetime: create, install the history, drop -/
def lifetime (mode : Mode) (s : MState) (rs : List Req) : Option MState :=
  (installs mode s rs).map (dropInjector srcDropOrder)

/-- any number of consecutive lifetimes -/
def lifetimes (mode : Mode) : MState → List (List Req) → Option MState
  | s, [] => some s
  | s, rs :: rest => match lifetime mode s rs with
    | none => none
    | some s' => lifetimes mode s' rest

/-- **Balance over any number of cycles**: after any list of create / install / drop cycles
    (each history any length, repeated targets, any payload kinds) the set of trampoline
    mappings is exactly what it was, and no guard is left. -/
theorem C12_balance (mode : Mode) (hs : List (List Req)) :
    ∀ (s0 s : MState), s0.guards = [] → lifetimes mode s0 hs = some s →
      (∀ rs ∈ hs, (∀ r ∈ rs, ∀ x, inJit r x → ¬ inSlot r x) ∧ FreshMaps s0.maps rs) →
      s.maps = s0.maps ∧ s.guards = [] := by
  induction hs with
  | nil =>
    intro s0 s hg h _
    cases h
    exact ⟨rfl, hg⟩
  | cons rs rest ih =>
    intro s0 s hg h hwp
    simp only [lifetimes] at h
    cases hl : lifetime mode s0 rs with
    | none => simp [hl] at h
    | some s1 =>
      simp only [hl] at h
      obtain ⟨sf, hi, rfl⟩ := Option.map_eq_some_iff.mp hl
      obtain ⟨_, hm, hgd, _⟩ := C02_restores mode rs s0 sf hg hi (hwp rs (by simp)).1 (hwp rs (by simp)).2
      rw [← hm] at hwp ⊢
      exact ih _ s hgd h fun rs' hrs' => hwp rs' (by simp [hrs'])

/-- **Exactly once, only its own.**  Within one lifetime the `munmap` calls made by the drop
    are precisely the `mmap`s made by the installs — same (address, length) pairs, each once,
    newest first — and the installs themselves unmap nothing. -/
theorem C12_once (mode : Mode) (rs : List Req) (s0 sf : MState)
    (hg : s0.guards = []) (h : installs mode s0 rs = some sf) (hnz : ∀ r ∈ rs, r.jit ≠ 0) :
    ∃ evI evD, sf.log = evI ++ s0.log ∧ (dropGuards sf sf.guards.reverse).log = evD ++ sf.log ∧
      munmapsOf evI.reverse = [] ∧ mmapsOf evD.reverse = [] ∧
      munmapsOf evD.reverse = (mmapsOf evI.reverse).reverse := by
  obtain ⟨⟨gs, hguards, hjits, hfrom⟩, evI, hlogI, hmmapsI, hmunmapsI⟩ := installs_guards_log h
  obtain ⟨evD, hlogD, hmunmapsD, hmmapsD⟩ := dropGuards_log sf sf.guards.reverse
  rw [hg, List.nil_append] at hguards
  refine ⟨evI, evD, hlogI, hlogD, hmunmapsI, hmmapsD, ?_⟩
  -- the guards describe the requests in order, and none of them has a null trampoline
  rw [hmunmapsD, hmmapsI, hguards, ← hjits, ← List.map_reverse, List.filter_eq_self.mpr]
  intro g hgm
  obtain ⟨r, hr, _, _, hj⟩ := hfrom g (List.mem_reverse.mp hgm)
  simp [hj, hnz r hr]

/-- the model's state is complete for the back ends: `injector_core` declares no process-wide or
    thread-local mutable state (regenerated from the source on every run) -/
theorem C12_state_modelled : Generated.Layout.coreStatics = [] := by decide

end Inj.Props

#print axioms Inj.Props.C12_balance
#print axioms Inj.Props.C12_once
#print axioms Inj.Props.C12_state_modelled
