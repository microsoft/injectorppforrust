/-
  C16 — 32-bit ARM patches (ARM and Thumb) load and branch to exactly the fake.
  Encoder from the instruction words the translator read out of patch_arm.rs; the LDR-literal /
  BX / NOP semantics (`Align(PC,4)`, PC read-ahead 8 / 4, interworking) is the independent
  fragment in Model/A32.lean.
-/
import InjModel.Generated.Layout
import InjModel.Lemmas.A32
namespace Inj.Props
open Inj.A32 Inj.Generated

theorem C16_consts_found : Consts.missing = [] := by decide

/-- number of instructions executed before control leaves the patch -/
def a32Steps (src : Nat) : Nat := if src % 4 = 3 then 3 else 2

/-- address the patch is written to (Thumb bit stripped) -/
def a32Entry (src : Nat) : Nat := if src % 2 = 1 then src - 1 else src

/-- **ARM state** (entry ≡ 0 mod 4): for every memory, entry and fake address, the word the load
    actually reads is the one holding the fake's address (Thumb bit included) and `bx` goes to
    fake & ~1 in the state given by fake & 1; only r9 is written. -/
theorem C16_arm (m0 : Mem) (src target : Nat) (h : src % 4 = 0) (r : Nat → Nat) :
    run (writeMem m0 src (patch src target).bytes) 2 { pc := src, thumb := false, r := r } =
      some { pc := target % 4294967296 / 2 * 2, thumb := target % 4294967296 % 2 == 1,
             r := setR r 9 (target % 4294967296) } := by
  have := run_patch m0 src target (by rw [h]; decide) r
  rw [(mod2_of_mod4 h : src % 2 = 0), h] at this
  exact this

/-- **Thumb state, entry ≡ 0 mod 4.** -/
theorem C16_thumb0 (m0 : Mem) (src target : Nat) (h : src % 4 = 1) (r : Nat → Nat) :
    run (writeMem m0 (src - 1) (patch src target).bytes) 2 { pc := src - 1, thumb := true, r := r } =
      some { pc := target % 4294967296 / 2 * 2, thumb := target % 4294967296 % 2 == 1,
             r := setR r 7 (target % 4294967296) } := by
  have := run_patch m0 src target (by rw [h]; decide) r
  rw [(mod2_of_mod4 h : src % 2 = 1), h] at this
  exact this

/-- **Thumb state, entry ≡ 2 mod 4** (NOP first, literal one halfword later). -/
theorem C16_thumb2 (m0 : Mem) (src target : Nat) (h : src % 4 = 3) (r : Nat → Nat) :
    run (writeMem m0 (src - 1) (patch src target).bytes) 3 { pc := src - 1, thumb := true, r := r } =
      some { pc := target % 4294967296 / 2 * 2, thumb := target % 4294967296 % 2 == 1,
             r := setR r 7 (target % 4294967296) } := by
  have := run_patch m0 src target (by rw [h]; decide) r
  rw [(mod2_of_mod4 h : src % 2 = 1), h] at this
  exact this

/-- **Extent.**  In all three cases exactly 12 bytes are written, at the entry with the Thumb bit
    stripped — the same range `read_bytes(src_ptr, patch_size)` saved.  (`h` is not needed: both
    hold for every `src`.) -/
theorem C16_saved (src target : Nat) (h : src % 4 ≠ 2) :
    (patch src target).bytes.length = Consts.armPatchSize ∧ (patch src target).addr = a32Entry src :=
  ⟨patch_length src target, patch_addr src target⟩

/-- **Callee-saved registers, full statement** (as C16 words it): executing the patch leaves every
    register the AAPCS makes a callee preserve (r4–r11, sp) as it was. -/
def C16_callee_full : Prop :=
  ∀ (m0 : Mem) (src target : Nat) (r : Nat → Nat) (c' : Cpu), src % 4 ≠ 2 →
    run (writeMem m0 (a32Entry src) (patch src target).bytes) (a32Steps src)
      { pc := a32Entry src, thumb := src % 2 == 1, r := r } = some c' →
    ∀ i, calleeSaved i = true → c'.r i = r i

/-- The full statement is **false** of the code (finding F6): the scratch register of the ARM
    sequence is r9, callee-saved.  Witness: entry 0x10000, fake 0x8000, all registers 0. -/
theorem C16_callee_full_false : ¬ C16_callee_full := fun hfull =>
  -- `run_patch` (meeting `a32Entry` and `a32Steps` by evaluation at the witness) gives the final state, in which
  -- r9 is 0x8000 and not the 0 it was, while `calleeSaved 9` holds
  absurd (hfull (fun _ => 0) 0x10000 0x8000 (fun _ => 0) _ (by decide) (run_patch _ _ _ (by decide) _) 9 (by decide))
    (by decide)

/-- What does hold (partial): the only register written is the scratch register of the literal
    load — r9 in ARM state, r7 in Thumb state (both callee-saved: the defect) — never sp, never
    another register. -/
theorem C16_callee_partial (m0 : Mem) (src target : Nat) (r : Nat → Nat) (c' : Cpu) (h : src % 4 ≠ 2)
    (hrun : run (writeMem m0 (a32Entry src) (patch src target).bytes) (a32Steps src)
      { pc := a32Entry src, thumb := src % 2 == 1, r := r } = some c') :
    ∀ i, i ≠ (if src % 2 = 1 then 7 else 9) → c'.r i = r i := by
  intro i hi
  unfold a32Entry a32Steps at hrun
  rw [run_patch m0 src target h r] at hrun
  injection hrun with hrun; subst hrun
  simp [setR, hi]

/-- non-vacuity -/
example : (patch 0x10003 0x8001).bytes = [0xC0, 0x46, 0x00, 0x4F, 0x38, 0x47, 0x01, 0x80, 0, 0, 0, 0] := by decide
example : (patch 0x10001 0x8001).addr = 0x10000 := by decide

/-- the model's state is complete for the back ends: `injector_core` declares no process-wide or
    thread-local mutable state (regenerated from the source on every run) -/
theorem C16_state_modelled : Generated.Layout.coreStatics = [] := by decide

end Inj.Props

#print axioms Inj.Props.C16_consts_found
#print axioms Inj.Props.C16_arm
#print axioms Inj.Props.C16_thumb0
#print axioms Inj.Props.C16_thumb2
#print axioms Inj.Props.C16_saved
#print axioms Inj.Props.C16_callee_full_false
#print axioms Inj.Props.C16_callee_partial
#print axioms Inj.Props.C16_state_modelled
