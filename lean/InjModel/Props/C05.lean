/-
  C05 — a panic while fakes are installed still restores, unlocks and never aborts.
  A lifetime is a body script (`Panic.Op`) in which a panic may happen at any position and of any
  library-raised kind, followed by the release of the injector in the order the source
  prescribes (two phases: the `Drop::drop` body, then the fields), with the verifier behaving as
  verifier.rs says.
-/
import InjModel.Lemmas.Panic
import InjModel.Props.C02
namespace Inj.Props
open Inj.Machine Inj.Panic Inj.Generated.Layout

/-- the `Drop::drop` body and the field order read from the source -/
def srcBody : List Field := Generated.Layout.injectorDropBody
def srcFields : List Field := Generated.Layout.injectorFields

theorem C05_source : Generated.Layout.verifierChecksPanicking = true ∧
    srcBody = Field.guards :: srcBody.tail ∧ srcBody.tail.contains Field.lock = false ∧
    srcFields.contains Field.lock = true ∧ (srcBody ++ srcFields).contains Field.verifiers = true ∧
    Generated.Layout.rawGateBeforeGuard = true ∧ Generated.Layout.asyncGateBeforeGuard = true ∧
    Generated.Layout.boolGateBeforeGuard = true ∧ Generated.Layout.funcPtrRejectsNull = true := by decide

/-- **Any body, any panic point, any pending expectations.**  For every body script — any
    installs, counted / rejected / plain calls, refused installations and a user panic, in any
    order, the first panic ending the body wherever it occurs (or none) — letting go of the
    injector in two phases as the language prescribes (the `Drop::drop` body as extracted, a
    panic raised inside it skipping the rest; then the fields in declaration order, a non-empty
    guard vector dropping oldest first):
      * never aborts the process and raises at most one panic in total
        (none of its own when the body already panicked, at most one otherwise);
      * releases the process-wide guard;
      * restores every byte outside the (unmapped) trampoline pages, the set of mappings, and
        leaves no guard — i.e. the next lifetime starts from the original state. -/
theorem C05_safe (mode : Mode) (ops : List Op) (s0 : MState) (hg : s0.guards = [])
    (hdis : ∀ r ∈ reqsOf mode ⟨s0, [], false⟩ ops, ∀ x, inJit r x → ¬ inSlot r x)
    (hfresh : FreshMaps s0.maps (reqsOf mode ⟨s0, [], false⟩ ops)) :
    let st := runBody mode ⟨s0, [], false⟩ ops
    let e := scopeExit2 srcDropOrder Generated.Layout.verifierChecksPanicking srcBody srcFields st
    e.abort = false ∧
    (if st.panicked then 1 else 0) + e.newPanics ≤ 1 ∧
    e.lockHeld = false ∧
    (∀ x, (∀ r ∈ reqsOf mode ⟨s0, [], false⟩ ops, ¬ inJit r x) → e.ms.mem x = s0.mem x) ∧
    e.ms.maps = s0.maps ∧ e.ms.guards = [] := by
  intro st e
  obtain ⟨hcp, hb, hl, hfl, _, _⟩ := C05_source
  -- memory, mappings and guards: the exit theorem of C02 at the state the body reached
  obtain ⟨h1, hmem, hmaps, hguards⟩ := C02_any_exit mode _ s0 st.ms hg
    (runBody_installs mode ⟨s0, [], false⟩ ops) hdis hfresh st.verifs st.panicked
  obtain ⟨_, _, h3, h4⟩ := scopeExit2_guards_first srcDropOrder srcFields st hcp hb hl
  refine ⟨h1, h4, h3.trans ?_, hmem, hmaps, hguards⟩
  rw [hfl]; rfl

/-- **A refused installation modifies nothing**: signature mismatch, null pointer and allocation
    failure raise their panic before any byte of the function or any mapping changes (the gates
    precede the patching call in the source: `C05_source`). -/
theorem C05_refused (mode : Mode) (st : LifeState) (hp : st.panicked = false) (pushed : Option Nat) :
    (runBody mode st [Op.refused pushed]).ms = st.ms ∧ (runBody mode st [Op.refused pushed]).panicked = true := by
  simp [runBody, hp]

/-- **Verification at normal scope exit**: the injector panics iff some pending expectation is
    unsatisfied — and then exactly once, however many are unsatisfied (wherever the source lets
    the verifiers go: `scopeExit2_newPanics` holds for any body and field order that drops them). -/
theorem C05_exit_once (st : LifeState) (hp : st.panicked = false) :
    (scopeExit2 srcDropOrder true srcBody srcFields st).newPanics = if anyMismatch st.verifs then 1 else 0 := by
  obtain ⟨_, _, _, _, hv, _⟩ := C05_source
  exact scopeExit2_newPanics srcDropOrder srcBody srcFields st hp hv

/-- non-vacuity: two unsatisfied expectations and no body panic give exactly one panic -/
example : anyMismatch [(1, 0), (2, 0)] = true := by decide

end Inj.Props

#print axioms Inj.Props.C05_source
#print axioms Inj.Props.C05_safe
#print axioms Inj.Props.C05_refused
#print axioms Inj.Props.C05_exit_once
