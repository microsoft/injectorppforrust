/-
  C03 — installing and removing fakes touches nothing but the designated entries.
-/
import InjModel.Generated.Layout
import InjModel.Lemmas.Machine
namespace Inj.Props
open Inj.Machine

/-- **Frame of installation**, every history and hence every prefix of it: a byte that is
    neither in a named entry range `[func, func+12)` nor in a trampoline page the run itself
    mapped is never changed.  (`hdis` and `hfresh` are not needed for this.) -/
theorem C03_frame_install (mode : Mode) (rs : List Req) (s0 sf : MState)
    (h : installs mode s0 rs = some sf)
    (hdis : ∀ r ∈ rs, ∀ x, inJit r x → ¬ inSlot r x) (hfresh : FreshMaps s0.maps rs) :
    ∀ x, (∀ r ∈ rs, ¬ inJit r x ∧ ¬ inSlot r x) → sf.mem x = s0.mem x :=
  installs_frame h

/-- **Frame of removal**, for any list of guards restored in any order (so also for every
    state inside the drop of an injector): only `[addr, addr+patchLen)` of those guards. -/
theorem C03_frame_drop (gs : List Guard) (s : MState) (x : Nat)
    (hx : ∀ g ∈ gs, x < g.addr ∨ g.addr + g.patchLen ≤ x) : (dropGuards s gs).mem x = s.mem x :=
  dropGuards_frame s gs x hx

/-- **Extent of an entry patch**: every guard an install history creates covers at most the
    first 12 bytes (5 or 12 on x86-64) of the function it names — inside the 16-byte slot. -/
theorem C03_slot (mode : Mode) (rs : List Req) (s0 sf : MState) (h : installs mode s0 rs = some sf) :
    ∃ gs, sf.guards = s0.guards ++ gs ∧ ∀ g ∈ gs, ∃ r ∈ rs, g.addr = r.func ∧ g.patchLen ≤ 12 := by
  obtain ⟨⟨gs, hguards, _, hfrom⟩, _⟩ := installs_guards_log h
  exact ⟨gs, hguards, fun g hg => by obtain ⟨r, hr, a, b, _⟩ := hfrom g hg; exact ⟨r, hr, a, b⟩⟩

/-- whole lifetime: install history then drop — bytes outside the named slots and outside the
    run's own trampoline pages are the same in the final state (`hdis` and `hfresh` are not needed
    for this) -/
theorem C03_frame_lifetime (mode : Mode) (rs : List Req) (s0 sf : MState) (ord : DropOrder)
    (hg : s0.guards = []) (h : installs mode s0 rs = some sf)
    (hdis : ∀ r ∈ rs, ∀ x, inJit r x → ¬ inSlot r x) (hfresh : FreshMaps s0.maps rs) :
    ∀ x, (∀ r ∈ rs, ¬ inJit r x ∧ ¬ inSlot r x) → (dropInjector ord sf).mem x = s0.mem x := by
  intro x hx
  obtain ⟨⟨gs, hguards, _, hfrom⟩, _⟩ := installs_guards_log h
  rw [hg, List.nil_append] at hguards
  have hfr : ∀ g ∈ sf.guards, x < g.addr ∨ g.addr + g.patchLen ≤ x := by
    intro g hgm
    rw [hguards] at hgm
    obtain ⟨r, hr, ha, hp, _⟩ := hfrom g hgm
    have := (hx r hr).2
    unfold inSlot at this
    omega
  rw [← installs_frame h x hx]
  cases ord with
  | oldestFirst => exact dropGuards_frame sf _ x hfr
  | newestFirst => exact dropGuards_frame sf _ x fun g hg => hfr g (List.mem_reverse.mp hg)

/-- the model's state is complete for the back ends: `injector_core` declares no process-wide or
    thread-local mutable state (regenerated from the source on every run) -/
theorem C03_state_modelled : Generated.Layout.coreStatics = [] := by decide

end Inj.Props

#print axioms Inj.Props.C03_frame_install
#print axioms Inj.Props.C03_frame_drop
#print axioms Inj.Props.C03_slot
#print axioms Inj.Props.C03_frame_lifetime
#print axioms Inj.Props.C03_state_modelled
