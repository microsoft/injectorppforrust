import InjModel.Model.X86
import InjModel.Lemmas.Bytes
import InjModel.Lemmas.Mem
namespace Inj.X86

/-- `genBranch` with the constants extracted from the source substituted by the values the
    ISA fragment expects (E9 / 48 B8 / FF E0, bias 5).  If the source constants change, the
    `rfl` of `genBranch_eq_lit` — and with it every theorem below — stops checking. -/
def genBranchLit (mode : Mode) (ori target : Nat) : Res (List Nat) :=
  let s : Int := toI64 ori + 5
  let d : Int := toI64 target - wrapI64 s
  if mode = Mode.debug ∧ (s ≥ 9223372036854775808 ∨ d < -9223372036854775808 ∨ d ≥ 9223372036854775808) then
    Res.panic "arith-overflow"
  else
    let off := wrapI64 d
    if -2147483648 ≤ off ∧ off ≤ 2147483647 then
      Res.ok (0xE9 :: le32 (ofInt32 off))
    else
      Res.ok ([0x48, 0xB8] ++ le64 target ++ [0xFF, 0xE0])

theorem genBranch_eq_lit : genBranch = genBranchLit := rfl

theorem boolStub_eq (v : Bool) :
    boolStub v = [0x48, 0xC7, 0xC0, (if v then 1 else 0), 0x00, 0x00, 0x00, 0xC3] := by
  cases v <;> rfl

theorem boolStub_length (v : Bool) : (boolStub v).length = 8 := by cases v <;> rfl

/-- the two encodings: `jmp rel32` when the wrapped displacement fits in an i32, else `mov rax, target; jmp rax` -/
theorem genBranch_eq_ok {mode : Mode} {ori target : Nat} {bs : List Nat} (h : genBranch mode ori target = Res.ok bs) :
    ∃ off : Int, off = wrapI64 (toI64 target - wrapI64 (toI64 ori + 5)) ∧
      ((-2147483648 ≤ off ∧ off ≤ 2147483647 ∧ bs = 0xE9 :: le32 (ofInt32 off)) ∨
        bs = 0x48 :: 0xB8 :: (le64 target ++ [0xFF, 0xE0])) := by
  rw [genBranch_eq_lit] at h
  unfold genBranchLit at h
  simp only at h
  split at h
  · cases h
  · split at h
    next hfit => injection h with h; exact ⟨_, rfl, Or.inl ⟨hfit.1, hfit.2, h.symm⟩⟩
    next => injection h with h; exact ⟨_, rfl, Or.inr h.symm⟩

theorem genBranch_length {mode : Mode} {ori target : Nat} {bs : List Nat}
    (h : genBranch mode ori target = Res.ok bs) : bs.length = 5 ∨ bs.length = 12 := by
  obtain ⟨_, _, ⟨_, _, rfl⟩ | rfl⟩ := genBranch_eq_ok h
  · exact Or.inl rfl
  · exact Or.inr rfl

theorem genBranch_length_le {mode : Mode} {ori target : Nat} {bs : List Nat}
    (h : genBranch mode ori target = Res.ok bs) : bs.length ≤ 12 := by
  rcases genBranch_length h with h | h
  · rw [h]; decide
  · exact Nat.le_of_eq h

theorem holds_nil (m : Nat → Nat) (a : Nat) : Holds m a [] := fun _ h => absurd h (Nat.not_lt_zero _)

theorem holds_cons {m : Nat → Nat} {a b : Nat} {bs : List Nat} :
    Holds m a (b :: bs) ↔ m a = b ∧ Holds m (a + 1) bs := by
  constructor
  · intro h
    refine ⟨h 0 (Nat.zero_lt_succ _), fun i hi => ?_⟩
    rw [Nat.add_assoc, Nat.add_comm 1 i]
    exact h (i + 1) (Nat.succ_lt_succ hi)
  · rintro ⟨h0, h⟩ i hi
    cases i with
    | zero => exact h0
    | succ i =>
      have := h i (Nat.lt_of_succ_lt_succ hi)
      rwa [Nat.add_assoc, Nat.add_comm 1 i] at this

theorem holds_append {m : Nat → Nat} {a : Nat} {xs ys : List Nat} :
    Holds m a (xs ++ ys) ↔ Holds m a xs ∧ Holds m (a + xs.length) ys := by
  induction xs generalizing a with
  | nil => simp [holds_nil]
  | cons x xs ih =>
    rw [List.cons_append, holds_cons, holds_cons, ih, List.length_cons, Nat.add_assoc, Nat.add_comm 1, and_assoc]

theorem holds_writeMem (m : Mem) (a : Nat) (bs : List Nat) : Holds (writeMem m a bs) a bs :=
  fun i hi => writeMem_get m a bs i hi

theorem holds_congr {m m' : Nat → Nat} {a : Nat} {bs : List Nat} (h : Holds m a bs)
    (hm : ∀ x, a ≤ x → x < a + bs.length → m' x = m x) : Holds m' a bs :=
  fun i hi => (hm (a + i) (Nat.le_add_right a i) (Nat.add_lt_add_left hi a)).trans (h i hi)

theorem rd32_of_holds {m : Nat → Nat} {a n : Nat} (h : Holds m a (le32 n)) (hn : n < 4294967296) :
    rd32 m a = n := by
  simp only [le32, holds_cons, Nat.add_assoc, Nat.reduceAdd] at h
  obtain ⟨h0, h1, h2, h3, _⟩ := h
  rw [rd32, h0, h1, h2, h3, de32_le32 n hn]

theorem rd64_of_holds {m : Nat → Nat} {a n : Nat} (h : Holds m a (le64 n)) (hn : n < 18446744073709551616) :
    rd64 m a = n := by
  simp only [le64, le32, List.cons_append, List.nil_append, holds_cons, Nat.add_assoc, Nat.reduceAdd] at h
  obtain ⟨h0, h1, h2, h3, h4, h5, h6, h7, _⟩ := h
  rw [rd64, h0, h1, h2, h3, h4, h5, h6, h7, de64_le64 n hn]

theorem step_jmpRel32 {m : Nat → Nat} {c : Cpu} {n : Nat} (h : Holds m c.rip (0xE9 :: le32 n))
    (hn : n < 4294967296) : step m c = some { c with rip := wrap64 ((c.rip : Int) + 5 + sext32 n) } := by
  obtain ⟨h0, h1⟩ := holds_cons.1 h
  simp only [step, decode, h0, if_true, rd32_of_holds h1 hn]

theorem step_movRaxImm64 {m : Nat → Nat} {c : Cpu} {n : Nat} (h : Holds m c.rip (0x48 :: 0xB8 :: le64 n))
    (hn : n < 18446744073709551616) :
    step m c = some { c with rip := c.rip + 10, gpr := setReg c.gpr 0 n } := by
  obtain ⟨h0, h⟩ := holds_cons.1 h
  obtain ⟨h1, h2⟩ := holds_cons.1 h
  simp only [step, decode, h0, h1, rd64_of_holds h2 hn]
  rfl  -- what is left are comparisons of opcode bytes

theorem step_jmpRax {m : Nat → Nat} {c : Cpu} (h : Holds m c.rip [0xFF, 0xE0]) :
    step m c = some { c with rip := c.gpr 0 } := by
  obtain ⟨h0, h⟩ := holds_cons.1 h
  obtain ⟨h1, _⟩ := holds_cons.1 h
  simp only [step, decode, h0, h1]
  rfl

theorem step_movRaxSImm32 {m : Nat → Nat} {c : Cpu} {n : Nat}
    (h : Holds m c.rip (0x48 :: 0xC7 :: 0xC0 :: le32 n)) (hn : n < 4294967296) :
    step m c = some { c with rip := c.rip + 7, gpr := setReg c.gpr 0 (wrap64 (sext32 n)) } := by
  obtain ⟨h0, h⟩ := holds_cons.1 h
  obtain ⟨h1, h⟩ := holds_cons.1 h
  obtain ⟨h2, h3⟩ := holds_cons.1 h
  simp only [step, decode, h0, h1, h2, rd32_of_holds h3 hn]
  rfl

theorem step_ret {m : Nat → Nat} {c : Cpu} (h : Holds m c.rip [0xC3]) :
    step m c = some { c with rip := rd64 m (c.gpr 4),
                             gpr := setReg c.gpr 4 ((c.gpr 4 + 8) % 18446744073709551616) } := by
  simp only [step, decode, (holds_cons.1 h).1]
  rfl

theorem run_add (m : Nat → Nat) (a b : Nat) (c : Cpu) : run m (a + b) c = (run m a c).bind (run m b) := by
  induction a generalizing c with
  | zero => rw [Nat.zero_add]; rfl
  | succ a ih =>
    rw [Nat.add_right_comm]
    simp only [run]
    cases step m c with
    | none => rfl
    | some c' => exact ih c'

theorem run_trans {m : Nat → Nat} {a b : Nat} {c c1 c2 : Cpu} (h1 : run m a c = some c1)
    (h2 : run m b c1 = some c2) : run m (a + b) c = some c2 := by
  rw [run_add, h1]; exact h2

/-- The displacement arithmetic.  `toI64` and `wrapI64` only change a value by multiples of 2^64,
    which `wrap64` removes, so the rel32 form lands on the target however the subtractions wrap. -/
theorem rel32_lands (ori target : Nat) (ht : target < 18446744073709551616) :
    wrap64 ((ori : Int) + 5 + wrapI64 (toI64 target - wrapI64 (toI64 ori + 5))) = target := by
  have hs := (wrapI64_emod (toI64 ori + 5)).trans (Int.add_emod_eq_add_emod_right 5 (toI64_emod ori))
  -- under `% 2^64` the displacement is `target - (ori + 5)`
  rw [wrap64, Int.add_comm (ori + 5), ← Int.emod_add_emod, wrapI64_emod, Int.sub_emod, toI64_emod, hs, ← Int.sub_emod,
    Int.emod_add_emod, Int.sub_add_cancel,
    (Int.emod_eq_of_lt (Int.natCast_nonneg _) (Int.ofNat_lt.2 ht) : (target : Int) % 18446744073709551616 = target),
    Int.toNat_natCast]

/-- Any state whose memory holds a generated branch at `ori` and whose rip is `ori`
    reaches exactly `target` in at most two steps; only rip and (long form) rax change. -/
theorem genBranch_run {mode : Mode} {ori target : Nat} {bs : List Nat}
    (ht : target < 18446744073709551616) (h : genBranch mode ori target = Res.ok bs)
    {m : Nat → Nat} (hm : Holds m ori bs) (c : Cpu) (hc : c.rip = ori) :
    (run m 1 c = some { c with rip := target }) ∨
    (run m 2 c = some { c with rip := target, gpr := setReg c.gpr 0 target }) := by
  subst hc
  obtain ⟨_, rfl, ⟨hlo, hhi, rfl⟩ | rfl⟩ := genBranch_eq_ok h
  · left
    simp only [run, step_jmpRel32 hm (ofInt32_lt _), sext32_ofInt32 _ hlo hhi, rel32_lands c.rip target ht]
  · right
    obtain ⟨hmov, hjmp⟩ := (holds_append (xs := 0x48 :: 0xB8 :: le64 target)).1 hm
    -- `hjmp` is at `c.rip + (0x48 :: 0xB8 :: le64 target).length`, which evaluates to `c.rip + 10`
    have s2 : step m { c with rip := c.rip + 10, gpr := setReg c.gpr 0 target } = _ := step_jmpRax hjmp
    simp only [run, step_movRaxImm64 hmov ht, s2]
    rfl

/-- `mov rax, imm32(v); ret`: rax = v, control returns to the address on top of the stack, the
    stack pointer is popped, nothing else changes -/
theorem boolStub_run {m : Nat → Nat} {a : Nat} {v : Bool} (hm : Holds m a (boolStub v))
    (c : Cpu) (hc : c.rip = a) :
    run m 2 c = some { c with rip := rd64 m (c.gpr 4),
                              gpr := setReg (setReg c.gpr 0 (if v then 1 else 0)) 4 ((c.gpr 4 + 8) % 18446744073709551616) } := by
  subst hc
  have hb : boolStub v = (0x48 :: 0xC7 :: 0xC0 :: le32 (if v then 1 else 0)) ++ [0xC3] := by
    cases v <;> rfl
  rw [hb] at hm
  obtain ⟨hmov, hret⟩ := holds_append.1 hm
  have s1 := step_movRaxSImm32 hmov (by cases v <;> decide)
  rw [show wrap64 (sext32 (if v then 1 else 0)) = (if v then 1 else 0) by cases v <;> rfl] at s1
  have s2 : step m { c with rip := c.rip + 7, gpr := setReg c.gpr 0 (if v then 1 else 0) } = _ :=
    step_ret hret
  simp only [run, s1, s2]
  rfl

end Inj.X86
