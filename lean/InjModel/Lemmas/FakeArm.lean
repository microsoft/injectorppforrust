import InjModel.Model.FakeArm
namespace Inj.FakeArm
open Inj.Generated.FakeArms

/-- the then-branch of every allowed skeleton: the canonical statements, for unit arms with or
    without a trailing `()`, do what `refSem` says of a call that passes `when` -/
theorem runStmts_allowed (o : Opts) (s : List Stmt)
    (hs : s ∈ if o.returns then [canonStmts o] else [canonStmts o, canonStmts o ++ [Stmt.retUnit]])
    (cnt n : Nat) : runStmts s none cnt n [] = refSem o ⟨true, cnt, n⟩ := by
  obtain ⟨w, a, r, tm⟩ := o
  -- a finite sweep over the options; evaluation leaves the budget test of the arms with `times`, which `split` decides
  cases r
  · simp only [Bool.false_eq_true, if_false, List.mem_cons, List.not_mem_nil, or_false] at hs
    rcases hs with rfl | rfl <;> cases a <;> cases tm
    all_goals simp [canonStmts, runStmts, refSem]
    all_goals split <;> simp
  · simp only [if_true, List.mem_singleton] at hs
    subst hs
    cases a <;> cases tm
    all_goals simp [canonStmts, runStmts, refSem]
    all_goals split <;> simp

end Inj.FakeArm
