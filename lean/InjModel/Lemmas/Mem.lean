import InjModel.Model.Mem
namespace Inj

theorem writeMem_in {m : Mem} {a : Nat} {bs : List Nat} {x : Nat} (h1 : a ≤ x) (h2 : x < a + bs.length) :
    writeMem m a bs x = bs.getD (x - a) 0 := if_pos ⟨h1, h2⟩

theorem writeMem_get (m : Mem) (a : Nat) (bs : List Nat) (k : Nat) (h : k < bs.length) :
    writeMem m a bs (a + k) = bs.getD k 0 := by
  rw [writeMem_in (Nat.le_add_right a k) (Nat.add_lt_add_left h a), Nat.add_sub_cancel_left]

theorem writeMem_out {m : Mem} {a : Nat} {bs : List Nat} {x : Nat} (h : ¬ (a ≤ x ∧ x < a + bs.length)) :
    writeMem m a bs x = m x := if_neg h

theorem writeMem_congr {m m' : Mem} (a : Nat) (bs : List Nat) {x : Nat} (h : m x = m' x) :
    writeMem m a bs x = writeMem m' a bs x := by
  unfold writeMem; rw [h]

theorem readMem_length (m : Mem) (a n : Nat) : (readMem m a n).length = n := by
  induction n generalizing a with
  | zero => rfl
  | succ n ih => rw [readMem, List.length_cons, ih]

theorem readMem_getD {m : Mem} {a n i : Nat} (h : i < n) : (readMem m a n).getD i 0 = m (a + i) := by
  induction n generalizing a i with
  | zero => omega
  | succ n ih =>
    cases i with
    | zero => rfl
    | succ i => rw [readMem, List.getD_cons_succ, ih (Nat.lt_of_succ_lt_succ h), Nat.add_assoc, Nat.add_comm 1]

theorem readMem_congr {m m' : Mem} (a n : Nat) (h : ∀ x, a ≤ x → x < a + n → m x = m' x) :
    readMem m a n = readMem m' a n := by
  induction n generalizing a with
  | zero => rfl
  | succ n ih =>
    rw [readMem, readMem, h a (Nat.le_refl a) (Nat.lt_add_of_pos_right (Nat.succ_pos n)),
      ih (a+1) fun x h1 h2 => h x (Nat.le_of_succ_le h1) (by omega)]

theorem writeMem_readMem {m m' : Mem} {a n x : Nat} (h1 : a ≤ x) (h2 : x < a + n) :
    writeMem m' a (readMem m a n) x = m x := by
  rw [writeMem_in h1 (by rwa [readMem_length]), readMem_getD (Nat.sub_lt_left_of_lt_add h1 h2),
    Nat.add_sub_cancel' h1]

theorem writeMem_undo (m : Mem) (a : Nat) (bs : List Nat) (x : Nat) :
    writeMem (writeMem m a bs) a (readMem m a bs.length) x = m x := by
  by_cases h : a ≤ x ∧ x < a + bs.length
  · exact writeMem_readMem h.1 h.2
  · rw [writeMem_out (by rwa [readMem_length]), writeMem_out h]

theorem take_readMem (m : Mem) (a n : Nat) : (readMem m a n).take n = readMem m a n :=
  List.take_of_length_le (Nat.le_of_eq (readMem_length m a n))

theorem pageStart_le (a : Nat) : pageStart a ≤ a := Nat.div_mul_le_self a pageSize

theorem pageStart_mono {a b : Nat} (h : a ≤ b) : pageStart a ≤ pageStart b :=
  Nat.mul_le_mul_right _ (Nat.div_le_div_right h)

theorem le_pageUp (a : Nat) : a ≤ pageUp a := by
  unfold pageUp pageSize; omega

end Inj
