/-
  Lemmas/Counter.lean — `runCalls` by what it counts: the counter advances by the matching calls
  (`runCalls_cnt`); of these the first `n - cnt` are accepted (`runCalls_ok`) and the rest refused, the
  non-matching ones being refused without counting (`runCalls_tally`).
-/
import InjModel.Model.Counter
namespace Inj.Counter

def countTrue : List Bool → Nat
  | [] => 0
  | true :: ms => countTrue ms + 1
  | false :: ms => countTrue ms

theorem countTrue_append (a b : List Bool) : countTrue (a ++ b) = countTrue a + countTrue b := by
  induction a with
  | nil => simp [countTrue]
  | cons x xs ih =>
    cases x
    · exact ih
    · rw [List.cons_append, countTrue, countTrue, ih, Nat.add_right_comm]

theorem call_true (n cnt : Nat) :
    call n cnt true = (if cnt < n then CallOut.ok else CallOut.panicOver, cnt + 1) := by
  -- the source tests `prev >= n`
  simp only [call, if_true]
  by_cases h : cnt < n
  · rw [if_pos h, if_neg (Nat.not_le.2 h)]
  · rw [if_neg h, if_pos (Nat.not_lt.1 h)]

theorem call_false (n cnt : Nat) : call n cnt false = (CallOut.panicUnexpected, cnt) := rfl

theorem runCalls_cnt (n cnt : Nat) (ms : List Bool) : (runCalls n cnt ms).2 = cnt + countTrue ms := by
  induction ms generalizing cnt with
  | nil => rfl
  | cons m ms ih =>
    cases m
    · simp only [runCalls, call_false, ih, countTrue]
    · simp only [runCalls, call_true, ih, countTrue]; omega

theorem runCalls_length (n cnt : Nat) (ms : List Bool) : (runCalls n cnt ms).1.length = ms.length := by
  induction ms generalizing cnt with
  | nil => rfl
  | cons m ms ih => simp only [runCalls, List.length_cons, ih]

theorem runCalls_append (n cnt : Nat) (a b : List Bool) :
    (runCalls n cnt (a ++ b)).1 = (runCalls n cnt a).1 ++ (runCalls n (runCalls n cnt a).2 b).1 := by
  induction a generalizing cnt with
  | nil => rfl
  | cons x xs ih => simp only [List.cons_append, runCalls, ih]

/-- outcome of the call at position `pre.length` -/
theorem runCalls_at (n cnt : Nat) (pre post : List Bool) (m : Bool) :
    (runCalls n cnt (pre ++ m :: post)).1.getD pre.length CallOut.ok = (call n (cnt + countTrue pre) m).1 := by
  have hl := runCalls_length n cnt pre
  rw [runCalls_append, List.getD_eq_getElem?_getD, List.getElem?_append_right (Nat.le_of_eq hl), hl, Nat.sub_self,
    runCalls, runCalls_cnt]
  rfl

def countOut (o : CallOut) : List CallOut → Nat
  | [] => 0
  | x :: xs => (if x = o then 1 else 0) + countOut o xs

theorem runCalls_ok (n cnt : Nat) (ms : List Bool) :
    countOut CallOut.ok (runCalls n cnt ms).1 = min (countTrue ms) (n - cnt) := by
  induction ms generalizing cnt with
  | nil => exact (Nat.zero_min _).symm
  | cons m ms ih =>
    cases m
    · simp only [runCalls, call_false, countOut, countTrue, ih, reduceCtorEq, if_false, Nat.zero_add]
    · simp only [runCalls, call_true, countOut, countTrue, ih]
      by_cases h : cnt < n
      · rw [if_pos h, if_pos rfl, show n - cnt = n - (cnt + 1) + 1 by omega, Nat.add_min_add_right, Nat.add_comm]
      · rw [if_neg h, if_neg (by decide), show n - cnt = 0 by omega, show n - (cnt + 1) = 0 by omega]
        simp only [Nat.min_zero, Nat.add_zero]

theorem runCalls_tally (n cnt : Nat) (ms : List Bool) :
    countOut CallOut.ok (runCalls n cnt ms).1 + countOut CallOut.panicOver (runCalls n cnt ms).1 = countTrue ms ∧
    countOut CallOut.panicUnexpected (runCalls n cnt ms).1 + countTrue ms = ms.length := by
  induction ms generalizing cnt with
  | nil => exact ⟨rfl, rfl⟩
  | cons m ms ih =>
    cases m
    · have := ih cnt
      simp only [runCalls, call_false, countOut, countTrue, List.length_cons, reduceCtorEq, if_false, if_true]
      omega
    · have := ih (cnt + 1)
      simp only [runCalls, call_true, countOut, countTrue, List.length_cons]
      split
      all_goals
        simp only [reduceCtorEq, if_false, if_true]
        omega

end Inj.Counter
