/-
  Lemmas/Sig.lean — the shape of renderings, and: a rendered type is balanced, so the scan for the
  closing parenthesis (`afterClose`) steps over it (`Balanced`, `bal_render`; `ac_render` and its
  companions say the same with depth and rest written out).
-/
import InjModel.Model.Sig
namespace Inj.Sig

/-- the qualifiers in front of `fn` -/
def quals (u : Bool) (abi : Nat) : List Tok :=
  (if u then [Tok.unsafe_] else []) ++ (if abi ≠ 0 then [Tok.extern_ abi] else [])

theorem renderFn_eq (u : Bool) (abi : Nat) (ps : TyList) (r : Ty) :
    renderFn (FnTy.mk u abi ps r) =
      quals u abi ++ Tok.fn_ :: Tok.lp :: (renderArgs ps ++ Tok.rp :: renderRet r) := by
  simp [renderFn, quals]

theorem renderRet_unit : renderRet unitTy = [] := by rw [unitTy, renderRet]

theorem renderRet_of_ne {t : Ty} (h : t ≠ unitTy) : renderRet t = Tok.arrow :: render t := by
  rw [renderRet]; exact h

theorem renderRet_prim (n : Nat) : renderRet (Ty.prim n) = [Tok.arrow, Tok.id n] := by
  rw [renderRet_of_ne (t := Ty.prim n) nofun, render]

theorem renderArgs_nil : renderArgs TyList.nil = [] := by rw [renderArgs]

theorem renderTuple_nil : renderTuple TyList.nil = [] := by rw [renderTuple]

theorem renderTuple_cons (t : Ty) (ts : TyList) :
    renderTuple (TyList.cons t ts) = render t ++ Tok.comma :: renderArgs ts := by
  cases ts <;> simp [renderTuple, renderArgs]

/-- what follows the first type of an argument list -/
def argsTail : TyList → List Tok
  | TyList.nil => []
  | ts => Tok.comma :: renderArgs ts

theorem renderArgs_cons (t : Ty) (ts : TyList) : renderArgs (TyList.cons t ts) = render t ++ argsTail ts := by
  cases ts <;> simp [renderArgs, argsTail]

theorem afterClose_other {x : Tok} (h1 : x ≠ Tok.lp) (h2 : x ≠ Tok.rp) (d : Nat) (ts : List Tok) :
    afterClose d (x :: ts) = afterClose d ts := afterClose.eq_4 d x ts h1 h2  -- the fall-through clause

theorem afterParams_other {x : Tok} (h : x ≠ Tok.lp) (ts : List Tok) : afterParams (x :: ts) = afterParams ts :=
  afterParams.eq_3 x ts h

theorem afterClose_rp (d : Nat) (rest : List Tok) :
    afterClose (d + 1 + 1) (Tok.rp :: rest) = afterClose (d + 1) rest := by
  simp [afterClose]

/-- `l` is skipped by the scan for the closing parenthesis, whatever the depth -/
def Balanced (l : List Tok) : Prop :=
  ∀ d rest, afterClose (d + 1) (l ++ rest) = afterClose (d + 1) rest

namespace Balanced

theorem nil : Balanced [] := fun _ _ => rfl

/-- for a concrete token `nofun` sees that it is no parenthesis -/
theorem cons {x : Tok} {l : List Tok} (h : Balanced l) (h1 : x ≠ Tok.lp := by nofun) (h2 : x ≠ Tok.rp := by nofun) :
    Balanced (x :: l) := fun d rest => by
  rw [List.cons_append, afterClose_other h1 h2]; exact h d rest

theorem append {a b : List Tok} (ha : Balanced a) (hb : Balanced b) : Balanced (a ++ b) :=
  fun d rest => by rw [List.append_assoc, ha, hb]

theorem paren {l r : List Tok} (hl : Balanced l) (hr : Balanced r) :
    Balanced (Tok.lp :: (l ++ Tok.rp :: r)) := fun d rest => by
  rw [List.cons_append, List.append_assoc, List.cons_append, afterClose, hl, afterClose_rp, hr]

theorem ite {c : Prop} [Decidable c] {a b : List Tok} (ha : Balanced a) (hb : Balanced b) :
    Balanced (if c then a else b) := by split <;> assumption

theorem ret {t : Ty} (h : Balanced (render t)) : Balanced (renderRet t) := by
  by_cases e : t = unitTy
  · rw [e, renderRet_unit]; exact nil
  · rw [renderRet_of_ne e]; exact cons h

end Balanced

mutual
theorem bal_render (t : Ty) : Balanced (render t) := by
  cases t <;> simp only [render, List.cons_append, List.append_assoc, List.nil_append]
  case prim n => exact .cons .nil
  case ref m t => exact .cons (.append (.ite (.cons .nil) .nil) (bal_render t))
  case ptr m t => exact .cons (.cons (bal_render t) (by split <;> nofun) (by split <;> nofun))
  case tuple ts => exact .paren (bal_tuple ts) .nil
  case slice t => exact .cons (.append (bal_render t) (.cons .nil))
  case array t n =>
    exact .cons (.append (bal_render t) (.cons (.cons (.cons .nil))))
  case app n args => exact .cons (.cons (.append (bal_args args) (.cons .nil)))
  case fn_ f => exact bal_fn f
  case dynfn ps r => exact .cons (.cons (.paren (bal_args ps) (bal_render r).ret))
termination_by structural t

theorem bal_args (ts : TyList) : Balanced (renderArgs ts) := by
  cases ts with
  | nil => rw [renderArgs_nil]; exact .nil
  | cons t ts =>
    rw [renderArgs_cons]
    refine .append (bal_render t) ?_
    cases ts with
    | nil => exact .nil
    | cons a as => exact .cons (bal_args (TyList.cons a as))
termination_by structural ts

theorem bal_tuple (ts : TyList) : Balanced (renderTuple ts) := by
  cases ts with
  | nil => rw [renderTuple_nil]; exact .nil
  | cons t ts => rw [renderTuple_cons]; exact .append (bal_render t) (.cons (bal_args ts))
termination_by structural ts

theorem bal_fn (f : FnTy) : Balanced (renderFn f) := by
  cases f with
  | mk u abi ps r =>
    rw [renderFn_eq]
    exact .append (.append (.ite (.cons .nil) .nil) (.ite (.cons .nil) .nil)) (.cons (.paren (bal_args ps) (bal_render r).ret))
termination_by structural f
end

theorem ac_render (t : Ty) (d : Nat) (rest : List Tok) :
    afterClose (d + 1) (render t ++ rest) = afterClose (d + 1) rest := bal_render t d rest

theorem ac_tuple (ts : TyList) (d : Nat) (rest : List Tok) :
    afterClose (d + 1) (renderTuple ts ++ rest) = afterClose (d + 1) rest := bal_tuple ts d rest

theorem ac_ret (r : Ty) (d : Nat) (rest : List Tok) :
    afterClose (d + 1) (renderRet r ++ rest) = afterClose (d + 1) rest := (bal_render r).ret d rest

theorem ac_fn (f : FnTy) (d : Nat) (rest : List Tok) :
    afterClose (d + 1) (renderFn f ++ rest) = afterClose (d + 1) rest := bal_fn f d rest

theorem afterParams_renderFn (f : FnTy) : afterParams (renderFn f) = some (renderRet f.ret) := by
  cases f with
  | mk u abi ps r =>
    have hq : ∀ l, afterParams (quals u abi ++ l) = afterParams l := by
      intro l
      cases u <;> by_cases h : abi = 0 <;> simp [quals, h, afterParams]
    rw [renderFn_eq, hq]
    -- both sides: `afterParams` / `afterClose` evaluated on the leading tokens
    show afterClose 1 (renderArgs ps ++ Tok.rp :: renderRet r) = afterClose 1 (Tok.rp :: renderRet r)
    exact bal_args ps 0 _

end Inj.Sig
