/-
  The invariant of the one-mutex protocol: every thread's pc agrees with who owns the mutex and whose fake is
  installed (`Inv`; thread by thread, `ThreadOK`).  `by_cases x = t`, is `x` the thread that moves, occurs once: `Inv.update`.
-/
import InjModel.Model.Lock
namespace Inj.Lock
open Inj.Generated.Layout

theorem setPc_same (f : Nat → Pc) (t : Nat) (p : Pc) : setPc f t p t = p := by simp [setPc]
theorem setPc_other (f : Nat → Pc) (t : Nat) (p : Pc) (x : Nat) (h : x ≠ t) : setPc f t p x = f x := by simp [setPc, h]

@[simp] theorem fakeLive_idle : fakeLive Pc.idle = false := rfl

@[simp] theorem fakeLive_holding (k : Kind) (i : Bool) :
    fakeLive (Pc.holding k i) = (decide (k = Kind.injector) && i) := by
  cases k <;> cases i <;> rfl

@[simp] theorem fakeLive_releasing (k : Kind) (i : Bool) (rest : List Field) (how : How) :
    fakeLive (Pc.releasing k i rest how) = (i && rest.contains Field.guards) := by
  cases i <;> rfl

theorem holdsLock_cons {f : Field} (hf : f ≠ Field.lock) (k : Kind) (i i' : Bool) (r : List Field) (how : How) :
    holdsLock (Pc.releasing k i (f :: r) how) = holdsLock (Pc.releasing k i' r how) := by
  show (f :: r).contains Field.lock = r.contains Field.lock
  rw [List.contains_cons, beq_false_of_ne hf.symm, Bool.false_or]

theorem fakeLive_cons {f : Field} (hf : f ≠ Field.guards) (k : Kind) (i : Bool) (r : List Field) (how : How) :
    fakeLive (Pc.releasing k i (f :: r) how) = fakeLive (Pc.releasing k i r how) := by
  rw [fakeLive_releasing, fakeLive_releasing, List.contains_cons, beq_false_of_ne hf.symm, Bool.false_or]

/-- after the `lock` micro-step neither a `guards` nor another `lock` micro-step remains; and no step
    is `Field.unknown` (an unrecognised field of the source) -/
def okOrder : List Field → Bool
  | [] => true
  | f :: rest =>
    (if f == Field.lock then !(rest.contains Field.guards) && !(rest.contains Field.lock) else true) &&
    (f != Field.unknown) && okOrder rest

/-- a well-ordered rest of a release; the second conjunct: while a `guards` step is still to come so is the
    `lock` step, so a fake is only ever live under the mutex (`PcOK.live_holds`) -/
def SuffixOK (rest : List Field) : Prop :=
  okOrder rest = true ∧ (rest.contains Field.guards = true → rest.contains Field.lock = true)

theorem SuffixOK.after_lock {rest : List Field} (h : SuffixOK (Field.lock :: rest)) :
    Field.guards ∉ rest ∧ Field.lock ∉ rest := by
  have h1 : (Field.guards ∉ rest ∧ Field.lock ∉ rest) ∧ okOrder rest = true := by simpa [okOrder] using h.1
  exact h1.1

theorem SuffixOK.tail {f : Field} {rest : List Field} (h : SuffixOK (f :: rest)) : SuffixOK rest := by
  have h1 := h.1
  simp only [okOrder, Bool.and_eq_true] at h1
  refine ⟨h1.2, fun hg => ?_⟩
  have hl := h.2 (by rw [List.contains_cons, hg, Bool.or_true])
  rw [List.contains_cons, Bool.or_eq_true] at hl
  rcases hl with hl | hl
  · cases eq_of_beq hl
    exact absurd (List.contains_iff_mem.mp hg) h.after_lock.1
  · exact hl

/-- what the protocol needs from the source -/
def GoodParams (p : Params) : Prop :=
  p.newTakesLock = true ∧ p.preventTakesLock = true ∧
  SuffixOK p.injectorRelease ∧ SuffixOK p.preventerRelease ∧
  p.injectorRelease.contains Field.lock = true ∧ p.preventerRelease.contains Field.lock = true ∧
  p.injectorRelease.contains Field.guards = true ∧
  (∀ path ∈ p.injectorPanicPaths, SuffixOK path ∧ path.contains Field.lock = true ∧ path.contains Field.guards = true)

theorem takesLock_good (p : Params) (hp : GoodParams p) (k : Kind) : takesLock p k = true := by
  cases k <;> simp [takesLock, hp.1, hp.2.1]

theorem chosenOrder_ok (p : Params) (hp : GoodParams p) (k : Kind) (how : How) (alt : Option Nat) (ord : List Field)
    (h : chosenOrder p k how alt = some ord) :
    SuffixOK ord ∧ ord.contains Field.lock = true ∧ (k = Kind.injector → ord.contains Field.guards = true) := by
  obtain ⟨_, _, hinj, hprev, hinjl, hprevl, hinjg, hpaths⟩ := hp
  cases alt with
  | none =>
    cases h
    cases k
    · exact ⟨hinj, hinjl, fun _ => hinjg⟩
    · exact ⟨hprev, hprevl, nofun⟩
  | some i =>
    simp only [chosenOrder] at h
    split at h
    · obtain ⟨a, b, c⟩ := hpaths ord (List.mem_of_getElem? h)
      exact ⟨a, b, fun _ => c⟩
    · cases h

structure Inv (s : LState) : Prop where
  lockOwner : ∀ t, holdsLock (s.pcs t) = true → s.owner = some t
  ownerLock : ∀ t, s.owner = some t → holdsLock (s.pcs t) = true
  fnLive : ∀ t, s.fn = some t → fakeLive (s.pcs t) = true
  liveFn : ∀ t, fakeLive (s.pcs t) = true → s.fn = some t ∧ holdsLock (s.pcs t) = true
  suffix : ∀ t k inst rest how, s.pcs t = Pc.releasing k inst rest how → SuffixOK rest
  instKind : ∀ t k, s.pcs t = Pc.holding k true → k = Kind.injector
  relKind : ∀ t k rest how, s.pcs t = Pc.releasing k true rest how → k = Kind.injector

/-- the part of `Inv` that speaks of a pc alone -/
def PcOK : Pc → Prop
  | Pc.idle => True
  | Pc.holding k i => i = true → k = Kind.injector
  | Pc.releasing k i rest _ => SuffixOK rest ∧ (i = true → k = Kind.injector)

theorem PcOK.live_holds {pc : Pc} (h : PcOK pc) (hl : fakeLive pc = true) : holdsLock pc = true := by
  cases pc with
  | idle => cases hl
  | holding k i => rfl
  | releasing k i rest how =>
    rw [fakeLive_releasing, Bool.and_eq_true] at hl
    exact h.1.2 hl.2

/-- `Inv` speaks of each thread by itself, given who owns the mutex and whose fake is installed; so a step,
    which moves one thread, is looked at for that thread only (`Inv.update`) -/
def ThreadOK (owner fn : Option Nat) (t : Nat) (pc : Pc) : Prop :=
  PcOK pc ∧ (holdsLock pc = true ↔ owner = some t) ∧ (fakeLive pc = true ↔ fn = some t)

theorem inv_iff (s : LState) : Inv s ↔ ∀ t, ThreadOK s.owner s.fn t (s.pcs t) := by
  constructor
  · intro hi t
    refine ⟨?_, ⟨hi.lockOwner t, hi.ownerLock t⟩, ⟨fun h => (hi.liveFn t h).1, hi.fnLive t⟩⟩
    cases hpc : s.pcs t with
    | idle => trivial
    | holding k i => intro h; subst h; exact hi.instKind t k hpc
    | releasing k i rest how =>
      exact ⟨hi.suffix t k i rest how hpc, fun h => by subst h; exact hi.relKind t k rest how hpc⟩
  · intro h
    have hok t := (h t).1
    have hlock t := (h t).2.1
    have hlive t := (h t).2.2
    exact ⟨fun t => (hlock t).mp, fun t => (hlock t).mpr, fun t => (hlive t).mpr,
      fun t hl => ⟨(hlive t).mp hl, (hok t).live_holds hl⟩,
      fun t k i rest how hpc => (hpc ▸ hok t : PcOK (Pc.releasing k i rest how)).1,
      fun t k hpc => (hpc ▸ hok t : PcOK (Pc.holding k true)) rfl,
      fun t k rest how hpc => (hpc ▸ hok t : PcOK (Pc.releasing k true rest how)).2 rfl⟩

/-- Thread `t` moves to `pc`, leaving the state with `owner` and `fn`: `Inv` survives if `t` is
    in order with these, and they differ from the old ones at most between `none` and `some t`. -/
theorem Inv.update {s : LState} (hi : Inv s) {t : Nat} {pc : Pc} {owner fn : Option Nat} {poisoned : Bool}
    (ht : ThreadOK owner fn t pc)
    (ho : ∀ x, x ≠ t → (owner = some x ↔ s.owner = some x))
    (hf : ∀ x, x ≠ t → (fn = some x ↔ s.fn = some x)) :
    Inv { owner := owner, fn := fn, poisoned := poisoned, pcs := setPc s.pcs t pc } := by
  rw [inv_iff] at hi ⊢
  intro x
  by_cases hx : x = t
  · subst hx; simp only [setPc_same]; exact ht
  · simp only [setPc_other _ _ _ _ hx, ThreadOK, ho x hx, hf x hx]; exact hi x

/-- thread `t` moves without touching the mutex or the function -/
theorem Inv.move {s : LState} (hi : Inv s) {t : Nat} {pc : Pc} (ht : ThreadOK s.owner s.fn t pc) :
    Inv { s with pcs := setPc s.pcs t pc } :=
  hi.update ht (fun _ _ => Iff.rfl) (fun _ _ => Iff.rfl)

theorem Inv.thread {s : LState} (hi : Inv s) {t : Nat} {pc : Pc} (hpc : s.pcs t = pc) : ThreadOK s.owner s.fn t pc :=
  hpc ▸ (inv_iff s).mp hi t

/-- `ThreadOK` asks of a pc, besides `PcOK`, only what `holdsLock` and `fakeLive` say of it -/
theorem ThreadOK.lock_eq {owner fn : Option Nat} {t : Nat} {pc0 pc : Pc} (h : ThreadOK owner fn t pc0)
    (e : holdsLock pc0 = holdsLock pc) : holdsLock pc = true ↔ owner = some t :=
  e ▸ h.2.1

theorem ThreadOK.live_eq {owner fn : Option Nat} {t : Nat} {pc0 pc : Pc} (h : ThreadOK owner fn t pc0)
    (e : fakeLive pc0 = fakeLive pc) : fakeLive pc = true ↔ fn = some t :=
  e ▸ h.2.2

theorem inv_init : Inv init :=
  (inv_iff init).mpr fun _ => ⟨trivial, by simp [init, holdsLock], by simp [init, fakeLive]⟩

theorem others_idle_lock (s : LState) (hi : Inv s) (t x : Nat) (hown : s.owner = some t) (hx : x ≠ t) :
    holdsLock (s.pcs x) = false ∧ fakeLive (s.pcs x) = false := by
  have hne : s.owner ≠ some x := by rw [hown]; exact fun h => hx (Option.some.inj h).symm
  exact ⟨Bool.eq_false_iff.2 fun h => hne (hi.lockOwner x h),
    Bool.eq_false_iff.2 fun h => hne (hi.lockOwner x (hi.liveFn x h).2)⟩

theorem Inv.fn_ne {s : LState} (hi : Inv s) {t x : Nat} (hown : s.owner = some t) (hx : x ≠ t) : s.fn ≠ some x :=
  fun h => Bool.false_ne_true ((others_idle_lock s hi t x hown hx).2.symm.trans (hi.fnLive x h))

/-- whoever holds the mutex sees its own fake once installed, the original otherwise -/
theorem Inv.holder_sees {s : LState} (hi : Inv s) {t : Nat} (hl : holdsLock (s.pcs t) = true) :
    s.fn = if fakeLive (s.pcs t) = true then some t else none := by
  cases hfn : s.fn with
  | none =>
    rw [if_neg]
    intro h
    rw [(hi.liveFn t h).1] at hfn
    cases hfn
  | some u =>
    by_cases hu : u = t
    · subst hu; rw [if_pos (hi.fnLive u hfn)]
    · exact absurd hfn (hi.fn_ne (hi.lockOwner t hl) hu)

theorem Inv.free_original {s : LState} (hi : Inv s) (hfree : s.owner = none) : s.fn = none := by
  cases hfn : s.fn with
  | none => rfl
  | some u => cases hfree.symm.trans (hi.lockOwner u (hi.liveFn u (hi.fnLive u hfn)).2)

theorem inv_step (p : Params) (hp : GoodParams p) (s s' : LState) (a : Action)
    (hi : Inv s) (hs : step p s a = some s') : Inv s' := by
  -- An enabled action moves one thread `t`, so `Inv.update` (`Inv.move` if owner and function stay) asks only
  -- for `ThreadOK` at the new pc: `PcOK`, lock ⇔ owner, live ⇔ fn.  An equivalence whose right side the step
  -- sets is proved afresh; the other is that of the old pc (`ht`), which held the mutex, or had its fake live,
  -- exactly as the new one does.
  cases a with
  | acquire t k =>
    cases hpc : s.pcs t with
    | idle =>
      simp only [step, hpc, takesLock_good p hp k, if_true] at hs
      split at hs
      next hc =>
        cases hs
        exact hi.update ⟨nofun, iff_of_true rfl rfl, (hi.thread hpc).live_eq (by simp)⟩
          (fun x hx => by simp [hc.1, Ne.symm hx]) (fun _ _ => Iff.rfl)
      next => cases hs
    | _ => simp [step, hpc] at hs
  | install t =>
    cases hpc : s.pcs t with
    | holding k i =>
      cases k with
      | injector =>
        simp only [step, hpc] at hs
        cases hs
        have ht := hi.thread hpc
        exact hi.update ⟨fun _ => rfl, ht.lock_eq rfl, iff_of_true rfl rfl⟩
          (fun _ _ => Iff.rfl) (fun x hx => by simp [hi.fn_ne (ht.2.1.mp rfl) hx, Ne.symm hx])
      | preventer => simp [step, hpc] at hs
    | _ => simp [step, hpc] at hs
  | beginRelease t how alt =>
    cases hpc : s.pcs t with
    | holding k i =>
      simp only [step, hpc] at hs
      cases hord : chosenOrder p k how alt with
      | none => simp [hord] at hs
      | some ord =>
        simp only [hord] at hs
        cases hs
        have ht := hi.thread hpc
        obtain ⟨hsfx, hordlock, hordguards⟩ := chosenOrder_ok p hp k how alt ord hord
        refine hi.move ⟨⟨hsfx, ht.1⟩, ht.lock_eq hordlock.symm, ht.live_eq ?_⟩
        -- an installed fake is an injector's, and an injector's order has the `guards` step
        cases i with
        | false => simp
        | true => cases ht.1 rfl; simpa using hordguards rfl
    | _ => simp [step, hpc] at hs
  | micro t =>
    cases hpc : s.pcs t with
    | releasing k i rest how =>
      have ht := hi.thread hpc
      obtain ⟨hsfx, hk⟩ := ht.1
      cases rest with
      | nil =>
        simp only [step, hpc] at hs
        cases hs
        exact hi.move ⟨trivial, ht.lock_eq rfl, ht.live_eq (by simp)⟩
      | cons f r =>
        have hsfx' := hsfx.tail
        cases f with
        | guards =>
          simp only [step, hpc] at hs
          cases hs
          cases i with
          | false => exact hi.move ⟨⟨hsfx', nofun⟩, ht.lock_eq (holdsLock_cons (by decide) ..), ht.live_eq rfl⟩
          | true =>
            exact hi.update ⟨⟨hsfx', nofun⟩, ht.lock_eq (holdsLock_cons (by decide) ..), iff_of_false nofun nofun⟩
              (fun _ _ => Iff.rfl) (fun x hx => by simp [ht.2.2.mp rfl, Ne.symm hx])
        | lock =>
          simp only [step, hpc, takesLock_good p hp k, if_true] at hs
          cases hs
          have hnl := hsfx.after_lock.2
          exact hi.update ⟨⟨hsfx', hk⟩, iff_of_false (fun h => hnl (List.contains_iff_mem.mp h)) nofun,
              ht.live_eq (fakeLive_cons (by decide) ..)⟩
            (fun x hx => by simp [ht.2.1.mp rfl, Ne.symm hx]) (fun _ _ => Iff.rfl)
        | verifiers | other | unknown =>
          simp only [step, hpc] at hs
          cases hs
          exact hi.move ⟨⟨hsfx', hk⟩, ht.lock_eq (holdsLock_cons (by decide) ..), ht.live_eq (fakeLive_cons (by decide) ..)⟩
    | _ => simp [step, hpc] at hs

theorem run_cons_some (p : Params) (s s' : LState) (a : Action) (as : List Action)
    (h : step p s a = some s') : run p s (a :: as) = run p s' as := by
  simp only [run, h]

theorem step_micro_nil (p : Params) {s : LState} {t : Nat} {k : Kind} {i : Bool} {how : How}
    (h : s.pcs t = Pc.releasing k i [] how) :
    step p s (Action.micro t) = some { s with pcs := setPc s.pcs t Pc.idle } := by
  simp only [step, h]

theorem step_micro_cons (p : Params) {s : LState} {t : Nat} {k : Kind} {i : Bool} {f : Field} {r : List Field}
    {how : How} (h : s.pcs t = Pc.releasing k i (f :: r) how) :
    ∃ s' i', step p s (Action.micro t) = some s' ∧ s'.pcs t = Pc.releasing k i' r how := by
  cases f
  all_goals
    simp only [step, h]
    exact ⟨_, _, rfl, setPc_same _ _ _⟩

theorem release_completes (p : Params) :
    ∀ (rest : List Field) (s : LState) (t : Nat) (k : Kind) (i : Bool) (how : How),
    s.pcs t = Pc.releasing k i rest how →
    (run p s (List.replicate (rest.length + 1) (Action.micro t))).pcs t = Pc.idle := by
  intro rest
  induction rest with
  | nil =>
    intro s t k i how h
    rw [List.length_nil, List.replicate_succ, run_cons_some _ _ _ _ _ (step_micro_nil p h)]
    exact setPc_same _ _ _
  | cons f r ih =>
    intro s t k i how h
    obtain ⟨s', i', hs, h'⟩ := step_micro_cons p h
    rw [List.length_cons, List.replicate_succ, run_cons_some _ _ _ _ _ hs]
    exact ih s' t k i' how h'

/-- once the mutex is free, and not poisoned unless poisoning is recovered, every idle thread's `new()` /
    `prevent()` is enabled -/
theorem handover (p : Params) (hp : GoodParams p) (s : LState) (hr : s.poisoned = false ∨ p.poisonRecovered = true)
    (hfree : s.owner = none) (u : Nat) (k : Kind) (hidle : s.pcs u = Pc.idle) :
    ∃ s', step p s (Action.acquire u k) = some s' ∧ s'.owner = some u := by
  simp only [step, hidle, takesLock_good p hp k, if_true]
  rw [if_pos ⟨hfree, hr⟩]
  exact ⟨_, rfl, rfl⟩

theorem reach_inv (p : Params) (hp : GoodParams p) (s : LState) (h : Reach p s) : Inv s := by
  induction h with
  | init => exact inv_init
  | step s s' a _ hs ih => exact inv_step p hp s s' a ih hs

end Inj.Lock
