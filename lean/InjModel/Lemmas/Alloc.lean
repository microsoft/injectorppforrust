import InjModel.Model.Alloc
namespace Inj.Alloc

theorem absDiff_lt (a b r : Nat) : absDiff a b < r ↔ a < b + r ∧ b < a + r := by
  unfold absDiff; split <;> omega

/-- mappings obtained during the search and not given back -/
def leaked : List AEvent → List Nat → List Nat
  | [], acc => acc
  | AEvent.mmap _ _ (some a) :: es, acc => leaked es (acc ++ [a])
  | AEvent.mmap _ _ none :: es, acc => leaked es acc
  | AEvent.munmap a _ :: es, acc => leaked es (acc.erase a)

/-- `acc`: the mappings held when the loop is entered; the hypothesis: the kernel never answers with an
    address still held -/
theorem loop_sound (src range page size : Nat) (answers : List (Option Nat)) :
    ∀ start acc, (∀ x, some x ∈ answers → x ∉ acc) →
      (∀ a, (loop src range page size answers start).1 = AResult.ok a →
        absDiff a src < range ∧ leaked (loop src range page size answers start).2 acc = acc ++ [a]) ∧
      ((loop src range page size answers start).1 = AResult.panic →
        leaked (loop src range page size answers start).2 acc = acc) := by
  induction answers with
  | nil =>
    intro start acc _
    simp only [loop]
    split <;> simp [leaked]
  | cons ans rest ih =>
    intro start acc hfresh
    have ih := ih (start + page) acc fun x hx => hfresh x (List.mem_cons_of_mem _ hx)
    cases ans with
    | none =>
      simp only [loop]
      split
      · exact ih
      · simp [leaked]
    | some a =>
      simp only [loop]
      split
      · split
        · next hnear => exact ⟨fun a' h => by cases h; exact ⟨hnear, rfl⟩, nofun⟩
        · -- the rejected mapping is given back at once: `acc` is as before
          have : (acc ++ [a]).erase a = acc := by
            rw [List.erase_append_right _ (hfresh a List.mem_cons_self), List.erase_cons_head, List.append_nil]
          simp only [leaked, this]
          exact ih
      · simp [leaked]

/-- `allocate_jit_memory_unix` starts the loop at the lower end of the window with nothing mapped -/
theorem search_sound (src range page size : Nat) (answers : List (Option Nat)) :
    (∀ a, (search src range page size answers).1 = AResult.ok a →
      absDiff a src < range ∧ leaked (search src range page size answers).2 [] = [a]) ∧
    ((search src range page size answers).1 = AResult.panic →
      leaked (search src range page size answers).2 [] = []) :=
  loop_sound src range page size answers (src - range) [] fun _ _ => List.not_mem_nil

/-- each iteration advances `start` by `page` and the loop stops once `start` has passed the
    upper bound, so it does not run out of answers if they reach past the bound -/
theorem loop_terminates (src range page size : Nat) (answers : List (Option Nat)) :
    ∀ start, src + range < start + answers.length * page →
      (loop src range page size answers start).1 ≠ AResult.stuck := by
  induction answers with
  | nil =>
    intro start h
    rw [List.length_nil, Nat.zero_mul, Nat.add_zero] at h
    simp [loop, Nat.not_le.2 h]
  | cons ans rest ih =>
    intro start h
    rw [List.length_cons, Nat.succ_mul] at h
    have ih := ih (start + page) (by omega)
    cases ans with
    | none => simp only [loop]; split <;> simp [ih]
    | some a =>
      simp only [loop]
      split
      · split <;> simp [ih]
      · simp

theorem search_first (src range page size jit : Nat) (hnear : absDiff jit src < range) :
    search src range page size [some jit] = (AResult.ok jit, [AEvent.mmap (src - range) size (some jit)]) := by
  rw [search, loop, if_pos (by omega), if_pos hnear]

end Inj.Alloc
