/-
  Lemmas/SigText.lean — the char-level scan of `Sig.returnsBoolText` on the spelled text of a token
  list is the token-level scan of `Sig.boolGateTopLevel` (`afterParamsC_spell`), and like it
  (`boolGateTopLevel_renderFn`, Lemmas/SigInj) accepts a rendered function-pointer type exactly when it returns
  `bool` (`returnsBoolText_renderFn`; helper lemmas for Props/C10).
-/
import InjModel.Model.SigText
import InjModel.Lemmas.Rt
import InjModel.Lemmas.SigInj
namespace Inj.Sig
open Inj.Rt

theorem afterCloseC_lp (d : Nat) (cs : List Char) : afterCloseC d ('(' :: cs) = afterCloseC (d + 1) cs := rfl

theorem afterCloseC_rp (d : Nat) (cs : List Char) :
    afterCloseC (d + 1 + 1) (')' :: cs) = afterCloseC (d + 1) cs := rfl

theorem afterCloseC_other {c : Char} (h1 : c ≠ '(') (h2 : c ≠ ')') (d : Nat) (cs : List Char) :
    afterCloseC d (c :: cs) = afterCloseC d cs := by rw [afterCloseC, if_neg h1, if_neg h2]

theorem afterParamsC_lp (cs : List Char) : afterParamsC ('(' :: cs) = afterCloseC 1 cs := rfl

theorem afterParamsC_other {c : Char} (h : c ≠ '(') (cs : List Char) : afterParamsC (c :: cs) = afterParamsC cs := by
  rw [afterParamsC, if_neg h]

abbrev plain (l : List Char) : Prop := ∀ c ∈ l, c ≠ '(' ∧ c ≠ ')'

theorem plain_append {a b : List Char} (ha : plain a) (hb : plain b) : plain (a ++ b) :=
  fun c hc => (List.mem_append.mp hc).elim (ha c) (hb c)

theorem scan_plain {α : Type} (F : List Char → α) (hF : ∀ c y, c ≠ '(' → c ≠ ')' → F (c :: y) = F y)
    (l y : List Char) (h : plain l) : F (l ++ y) = F y := by
  induction l with
  | nil => rfl
  | cons c cs ih =>
    have hc := h c List.mem_cons_self
    rw [List.cons_append, hF c _ hc.1 hc.2]
    exact ih (fun c hc => h c (List.mem_cons_of_mem _ hc))

theorem afterCloseC_plain (d : Nat) (l y : List Char) (h : plain l) : afterCloseC d (l ++ y) = afterCloseC d y :=
  scan_plain (afterCloseC d) (fun _ y h1 h2 => afterCloseC_other h1 h2 d y) l y h

theorem afterParamsC_plain (l y : List Char) (h : plain l) : afterParamsC (l ++ y) = afterParamsC y :=
  scan_plain afterParamsC (fun _ y h1 _ => afterParamsC_other h1 y) l y h

theorem tokText_plain (nm : Names) (ok : NamesOK nm) (t : Tok) (next : List Tok)
    (h1 : t ≠ Tok.lp) (h2 : t ≠ Tok.rp) : plain (tokText nm t next) := by
  cases t with
  | id n => exact fun c hc => ⟨(ok.id_plain n c hc).1, (ok.id_plain n c hc).2.1⟩
  | num n => exact ok.num_plain n
  | lp => exact absurd rfl h1
  | rp => exact absurd rfl h2
  | comma => simp only [tokText]; split <;> decide
  | extern_ a => exact plain_append (plain_append (by decide) (ok.abi_plain a)) (by decide)
  | _ => simp only [tokText]; decide

theorem afterCloseC_spell (nm : Names) (ok : NamesOK nm) (d : Nat) (toks : List Tok) :
    afterCloseC d (spellC nm toks) = (afterClose d toks).map (spellC nm) := by
  induction toks generalizing d with
  | nil => rfl
  | cons t rest ih =>
    rw [spellC]
    by_cases h1 : t = Tok.lp
    · subst h1; exact ih (d + 1)
    · by_cases h2 : t = Tok.rp
      · subst h2
        rcases d with _ | _ | d
        · rfl
        · rfl
        · show afterCloseC (d + 1 + 1) (')' :: spellC nm rest) = _
          rw [afterCloseC_rp, afterClose_rp]
          exact ih _
      · rw [afterCloseC_plain d _ _ (tokText_plain nm ok t rest h1 h2), ih, afterClose_other h1 h2]

theorem afterParamsC_spell (nm : Names) (ok : NamesOK nm) :
    ∀ (toks : List Tok), afterParamsC (spellC nm toks) = (afterParams toks).map (spellC nm) := by
  intro toks
  induction toks with
  | nil => rfl
  | cons t rest ih =>
    rw [spellC]
    by_cases h1 : t = Tok.lp
    · subst h1; exact afterCloseC_spell nm ok 1 rest
    · rw [afterParams_other h1, ← ih]
      by_cases h2 : t = Tok.rp
      · subst h2; rfl
      · exact afterParamsC_plain _ _ (tokText_plain nm ok t rest h1 h2)

theorem mem_spellC (nm : Names) (t : Tok) (c : Char) (h : ∀ next, tokText nm t next = [c]) :
    ∀ toks : List Tok, t ∈ toks → c ∈ spellC nm toks := by
  intro toks
  induction toks with
  | nil => nofun
  | cons u rest ih =>
    intro hm
    rw [spellC, List.mem_append]
    rcases List.mem_cons.mp hm with rfl | hm
    · left; rw [h]; exact List.mem_singleton_self c
    · right; exact ih hm

/-- the text of every type other than a name shows a char that no name and no blank is -/
theorem special_mem_render (nm : Names) (r : Ty) (hr : ∀ n, r ≠ Ty.prim n) :
    ∃ c ∈ ['&', '*', '(', '[', '<'], c ∈ spellC nm (render r) := by
  -- the token that shows it is the first one, except in `T<..>`, `fn(..)` and `dyn Fn(..)`
  have ⟨t, hm, c, hc, htc⟩ : ∃ t ∈ render r, ∃ c ∈ ['&', '*', '(', '[', '<'], ∀ next, tokText nm t next = [c] := by
    have hh : hd r ∈ render r := by
      obtain ⟨tl, e⟩ := render_head r
      rw [e]
      exact List.mem_cons_self
    cases r with
    | prim n => exact absurd rfl (hr n)
    | app n args => exact ⟨Tok.lt, by simp [render], '<', by decide, fun _ => rfl⟩
    | fn_ f =>
      cases f
      exact ⟨Tok.lp, by simp [render, renderFn_eq], '(', by decide, fun _ => rfl⟩
    | dynfn ps r => exact ⟨Tok.lp, by simp [render], '(', by decide, fun _ => rfl⟩
    | _ => exact ⟨_, hh, _, by decide, fun _ => rfl⟩
  exact ⟨c, hc, mem_spellC nm t c htc _ hm⟩

theorem spellC_render_bool (nm : Names) (ok : NamesOK nm) (r : Ty) (w : List Char)
    (e : spellC nm (render r) = ['b', 'o', 'o', 'l'] ++ w) (hw : w.all isWs = true) : r = Ty.prim boolId := by
  have hw := List.all_eq_true.mp hw
  by_cases hp : ∃ n, r = Ty.prim n
  · obtain ⟨n, rfl⟩ := hp
    simp only [render, spellC, tokText, List.append_nil] at e
    cases w with
    | nil => rw [(ok.id_bool n).mp e]
    | cons c cs =>
      have := (ok.id_plain n c (by rw [e]; simp)).2.2
      rw [hw c List.mem_cons_self] at this
      cases this
  · obtain ⟨c, hs, hc⟩ := special_mem_render nm r (fun n h => hp ⟨n, h⟩)
    rw [e] at hc
    have hn : c ∉ ['b', 'o', 'o', 'l'] ∧ isWs c = false :=
      (by decide : ∀ c ∈ ['&', '*', '(', '[', '<'], c ∉ ['b', 'o', 'o', 'l'] ∧ isWs c = false) c hs
    rcases List.mem_append.mp hc with h | h
    · exact absurd h hn.1
    · rw [hw c h] at hn; cases hn.2

theorem strTrim_renderRet (nm : Names) (ok : NamesOK nm) (r : Ty) :
    strTrim (spellC nm (renderRet r)) = arrowBool ↔ r = Ty.prim boolId := by
  constructor
  · intro h
    by_cases hu : r = unitTy
    · rw [hu, renderRet_unit] at h; cases h
    · rw [renderRet_of_ne hu] at h
      -- by evaluation: the text begins " -> ", and `strTrim` drops the leading blank
      have h' : strTrimEnd ('-' :: '>' :: ' ' :: spellC nm (render r)) = arrowBool := h
      obtain ⟨w, e, hw⟩ := strTrimEnd_split ('-' :: '>' :: ' ' :: spellC nm (render r))
      rw [h'] at e
      exact spellC_render_bool nm ok r w (by simpa [arrowBool] using e) hw
  · rintro rfl
    simp only [renderRet_prim, spellC, tokText, (ok.id_bool boolId).mpr rfl]
    rfl

theorem returnsBoolText_renderFn (nm : Names) (ok : NamesOK nm) (f : FnTy) :
    returnsBoolText (spellC nm (renderFn f)) = true ↔ f.ret = Ty.prim boolId := by
  rw [returnsBoolText, afterParamsC_spell nm ok, afterParams_renderFn]
  exact beq_iff_eq.trans (strTrim_renderRet nm ok f.ret)

end Inj.Sig
