import InjModel.Model.A32
import InjModel.Lemmas.X86
namespace Inj.A32
open Inj.Generated.Consts

theorem writeMem_get0 (m : Mem) (a : Nat) (bs : List Nat) (h : 0 < bs.length) :
    writeMem m a bs a = bs.getD 0 0 := writeMem_get m a bs 0 h

theorem mod2_of_mod4 {n k r : Nat} (h : n % 4 = k) (hr : k % 2 = r := by decide) : n % 2 = r := by
  rw [← hr, ← h, Nat.mod_mod_of_dvd n (by decide)]

theorem pred_mod4 {n k : Nat} (h : n % 4 = k + 1) : (n - 1) % 4 = k % 4 := by
  rw [← Nat.div_add_mod n 4, h, ← Nat.add_assoc, Nat.add_sub_cancel, Nat.mul_add_mod]

theorem align4 {a k : Nat} (c : Nat) (h : a % 4 = k) (hc : (k + c) % 4 = 0) : (a + c) / 4 * 4 = a + c :=
  Nat.div_mul_cancel (Nat.dvd_of_mod_eq_zero (by rw [Nat.add_mod, h, Nat.add_mod_mod, hc]))

theorem patch_addr (src target : Nat) : (patch src target).addr = if src % 2 = 1 then src - 1 else src := by
  simp only [patch, beq_iff_eq]

/-! The entry patch in each branch of its own tests, as the little-endian words of `patch_arm.rs`: `ldr r9,[pc,#-0]`,
    `bx r9`, the fake's address; in Thumb state `ldr r7,[pc,#0]; bx r7` (halfwords 4F00 4738), the address, padding. -/

theorem patch_arm (src target : Nat) (h : src % 2 = 0) :
    patch src target =
      { addr := src, thumb := false,
        bytes := le32 0xE51F9000 ++ (le32 0xE12FFF19 ++ le32 (target % 4294967296)) } := by
  simp only [patch, h, armArmWords, wordOf, List.map, List.flatMap_cons, List.flatMap_nil, List.append_nil,
    Nat.reduceBEq, Bool.false_and, Bool.false_eq_true, if_false]

theorem patch_thumb0 (src target : Nat) (h : src % 2 = 1) (ha : (src - 1) % 4 = 0) :
    patch src target =
      { addr := src - 1, thumb := true,
        bytes := le32 0x47384F00 ++ (le32 (target % 4294967296) ++ le32 0) } := by
  simp only [patch, h, ha, armThumbWords, armAlignMod, wordOf, List.map, List.flatMap_cons, List.flatMap_nil,
    List.append_nil, Nat.reduceBEq, bne_self_eq_false, Bool.and_false, Bool.false_eq_true, if_true, if_false]

theorem rotateRight_length (l : List Nat) (k : Nat) : (rotateRight l k).length = l.length := by
  rw [rotateRight, List.length_append, List.length_drop, List.length_take, Nat.min_eq_left (Nat.sub_le ..),
    Nat.sub_add_cancel (Nat.sub_le ..)]

/-- `rotate_right(2)` brings the last two bytes of the padding word to the front, where the NOP overwrites them -/
theorem nop_rotated (w t a b : Nat) :
    ((rotateRight (le32 w ++ (le32 t ++ le32 0)) 2).set 0 a).set 1 b = a :: b :: (le32 w ++ (le32 t ++ [0, 0])) := by
  simp [rotateRight, le32]

theorem patch_thumb2 (src target : Nat) (h : src % 2 = 1) (ha : (src - 1) % 4 ≠ 0) :
    patch src target =
      { addr := src - 1, thumb := true,
        bytes := 0xC0 :: 0x46 :: (le32 0x47384F00 ++ (le32 (target % 4294967296) ++ [0, 0])) } := by
  simp only [patch, h, bne_iff_ne.mpr ha, armThumbWords, armAlignMod, armRotate, armNop0, armNop1, wordOf, List.map,
    List.flatMap_cons, List.flatMap_nil, List.append_nil, Nat.reduceBEq, Bool.and_true, if_true, nop_rotated]

theorem patch_length (src target : Nat) : (patch src target).bytes.length = 12 := by
  rcases Nat.mod_two_eq_zero_or_one src with h | h
  · rw [patch_arm src target h]; rfl
  · by_cases ha : (src - 1) % 4 = 0
    · rw [patch_thumb0 src target h ha]; rfl
    · rw [patch_thumb2 src target h ha]; rfl

/-- a little-endian word read as two halfwords: the low half comes first -/
theorem rd16_of_holds {m : Mem} {a n : Nat} (h : X86.Holds m a (le32 n)) :
    rd16 m a = n % 65536 ∧ rd16 m (a + 2) = n / 65536 % 65536 := by
  simp only [le32, X86.holds_cons, Nat.add_assoc, Nat.reduceAdd] at h
  obtain ⟨h0, h1, h2, h3, _⟩ := h
  rw [rd16, rd16, Nat.add_assoc, h0, h1, h2, h3, show n / 16777216 = n / 65536 / 256 by rw [Nat.div_div_eq_div_mul]]
  -- `Nat.mod_mul` at `256 * 256`, which evaluates to `65536`
  exact ⟨Nat.mod_mul.symm, Nat.mod_mul.symm⟩

theorem step_arm_ldr {m : Mem} {pc w v : Nat} (r : Nat → Nat) (rt imm : Nat)
    (hw : rd32 m pc = w) (hd : decodeArm w = Instr.ldrLit rt false imm) (hrt : rt ≠ 15)
    (hv : rd32 m ((pc + 8) / 4 * 4 - imm) = v) :
    step m { pc := pc, thumb := false, r := r } = some { pc := pc + 4, thumb := false, r := setR r rt v } := by
  unfold step
  simp only [Bool.false_eq_true, if_false, hw, hd, hrt, hv]

theorem step_arm_bx {m : Mem} {pc w : Nat} (r : Nat → Nat) (rm : Nat)
    (hw : rd32 m pc = w) (hd : decodeArm w = Instr.bx rm) (hrm : rm ≠ 15) :
    step m { pc := pc, thumb := false, r := r } = some { pc := r rm / 2 * 2, thumb := r rm % 2 == 1, r := r } := by
  unfold step
  simp only [Bool.false_eq_true, if_false, hw, hd, hrm]

theorem step_thumb_ldr {m : Mem} {pc h v : Nat} (r : Nat → Nat) (rt imm : Nat)
    (hw : rd16 m pc = h) (hd : decodeThumb h = Instr.ldrLit rt true imm) (hrt : rt ≠ 15)
    (hv : rd32 m ((pc + 4) / 4 * 4 + imm) = v) :
    step m { pc := pc, thumb := true, r := r } = some { pc := pc + 2, thumb := true, r := setR r rt v } := by
  unfold step
  simp only [if_true, hw, hd, hrt, if_false, hv]

theorem step_thumb_bx {m : Mem} {pc h : Nat} (r : Nat → Nat) (rm : Nat)
    (hw : rd16 m pc = h) (hd : decodeThumb h = Instr.bx rm) (hrm : rm ≠ 15) :
    step m { pc := pc, thumb := true, r := r } = some { pc := r rm / 2 * 2, thumb := r rm % 2 == 1, r := r } := by
  unfold step
  simp only [if_true, hw, hd, hrm, if_false]

theorem step_thumb_nop {m : Mem} {pc h : Nat} (r : Nat → Nat)
    (hw : rd16 m pc = h) (hd : decodeThumb h = Instr.nop) :
    step m { pc := pc, thumb := true, r := r } = some { pc := pc + 2, thumb := true, r := r } := by
  unfold step
  simp only [if_true, hw, hd]

theorem setR_same (f : Nat → Nat) (i v : Nat) : setR f i v i = v := by simp [setR]

/-- A32 `ldr r9,[pc,#-0]; bx r9` at `a`: the load reads the word at `Align(a + 8, 4)` -/
theorem run_ldr_bx_arm {m : Mem} {a t : Nat} (r : Nat → Nat) (h0 : rd32 m a = 0xE51F9000)
    (h4 : rd32 m (a + 4) = 0xE12FFF19) (ht : rd32 m ((a + 8) / 4 * 4) = t) :
    run m 2 { pc := a, thumb := false, r := r } =
      some { pc := t / 2 * 2, thumb := t % 2 == 1, r := setR r 9 t } := by
  simp only [run, step_arm_ldr r 9 0 h0 (by decide) (by decide) ht,
    step_arm_bx (setR r 9 t) 9 h4 (by decide) (by decide), setR_same]

/-- T32 `ldr r7,[pc,#0]; bx r7` at `a`: the load reads the word at `Align(a + 4, 4)` -/
theorem run_ldr_bx_thumb {m : Mem} {a t : Nat} (r : Nat → Nat) (h0 : rd16 m a = 0x4F00)
    (h2 : rd16 m (a + 2) = 0x4738) (ht : rd32 m ((a + 4) / 4 * 4) = t) :
    run m 2 { pc := a, thumb := true, r := r } =
      some { pc := t / 2 * 2, thumb := t % 2 == 1, r := setR r 7 t } := by
  simp only [run, step_thumb_ldr r 7 0 h0 (by decide) (by decide) ht,
    step_thumb_bx (setR r 7 t) 7 h2 (by decide) (by decide), setR_same]

/-- Run from where it was written, in the state the entry's Thumb bit selects, the patch loads the fake's
    address (Thumb bit included) into its scratch register, and `bx` goes to fake & ~1 in the state given by
    fake & 1.  `src % 4 ≠ 2`: an ARM-state entry is word-aligned.  Three steps when the stripped entry `src - 1`
    is 2 mod 4 (`src % 4 = 3`): there the patch begins with a NOP. -/
theorem run_patch (m0 : Mem) (src target : Nat) (h : src % 4 ≠ 2) (r : Nat → Nat) :
    run (writeMem m0 (if src % 2 = 1 then src - 1 else src) (patch src target).bytes) (if src % 4 = 3 then 3 else 2)
        { pc := if src % 2 = 1 then src - 1 else src, thumb := src % 2 == 1, r := r } =
      some { pc := target % 4294967296 / 2 * 2, thumb := target % 4294967296 % 2 == 1,
             r := setR r (if src % 2 = 1 then 7 else 9) (target % 4294967296) } := by
  have h3 := (by decide : ∀ k < 4, k ≠ 2 → k = 0 ∨ k = 1 ∨ k = 3) _ (Nat.mod_lt src (by decide)) h
  have hm := X86.holds_writeMem m0 (if src % 2 = 1 then src - 1 else src) (patch src target).bytes
  generalize writeMem m0 _ (patch src target).bytes = M at hm ⊢
  have ht : target % 4294967296 < 4294967296 := Nat.mod_lt _ (by decide)
  rcases h3 with h4 | h4 | h4
  · -- ARM state: `ldr r9,[pc,#-0]` reads the word at entry+8
    have h2 : src % 2 = 0 := mod2_of_mod4 h4
    simp only [patch_arm src target h2, h2, h4, X86.holds_append, le32_length, Nat.add_assoc, Nat.reduceAdd,
      Nat.zero_ne_one, if_false, Nat.reduceBEq] at hm ⊢
    -- `A32.rd32` has the body of `X86.rd32` word for word, so `X86.rd32_of_holds` speaks of it too
    exact run_ldr_bx_arm r (X86.rd32_of_holds hm.1 (by decide)) (X86.rd32_of_holds hm.2.1 (by decide))
      (by rw [align4 8 h4 rfl]; exact X86.rd32_of_holds hm.2.2 ht)
  · -- Thumb state, stripped entry `src - 1` ≡ 0 mod 4: PC = entry+4 is aligned, the load reads the word at entry+4
    have h2 : src % 2 = 1 := mod2_of_mod4 h4
    have ha : (src - 1) % 4 = 0 := pred_mod4 h4
    simp only [patch_thumb0 src target h2 ha, h2, h4, X86.holds_append, le32_length, if_true, Nat.reduceBEq,
      Nat.reduceEqDiff, if_false] at hm ⊢
    exact run_ldr_bx_thumb r (rd16_of_holds hm.1).1 (rd16_of_holds hm.1).2
      (by rw [align4 4 ha rfl]; exact X86.rd32_of_holds hm.2.1 ht)
  · -- Thumb state, stripped entry ≡ 2 mod 4: NOP, then the load at entry+2 (PC = entry+6 ≡ 0 mod 4) reads the word at entry+6
    have h2 : src % 2 = 1 := mod2_of_mod4 h4
    have ha : (src - 1) % 4 = 2 := pred_mod4 h4
    simp only [patch_thumb2 src target h2 (by rw [ha]; decide), h2, h4, X86.holds_cons, X86.holds_append, le32_length,
      Nat.add_assoc, Nat.reduceAdd, if_true, Nat.reduceBEq] at hm ⊢
    obtain ⟨b0, b1, hc, hlit, -⟩ := hm
    rw [run, step_thumb_nop r (by rw [rd16, b0, b1]) (by decide)]
    exact run_ldr_bx_thumb r (rd16_of_holds hc).1 (rd16_of_holds hc).2
      (by rw [Nat.add_assoc, align4 6 ha rfl]; exact X86.rd32_of_holds hlit ht)

end Inj.A32
