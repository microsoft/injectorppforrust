/-
  Lemmas/Machine.lean — the machine model in closed form and what histories preserve.  `patchFunction`,
  `restoreGuard` and a successful `installX86` are written out field by field (`patchFunction_eq`,
  `restoreGuard_eq`, `installed` / `installX86_eq`); a fact about a history or a drop is then one of two
  inductions applied to a per-step fact (`installs_invariant`, `dropGuards_invariant`), except restoration,
  the LIFO argument `installs_restore`.  At the end, the installed bytes executed (`Redirects`, `latest_wins`).
-/
import InjModel.Model.Machine
import InjModel.Lemmas.Mem
import InjModel.Lemmas.X86
namespace Inj.Machine

theorem allWritable_iff (w : Nat → Bool) (a n : Nat) :
    allWritable w a n = true ↔ ∀ x, a ≤ x → x < a + n → w x = true := by
  induction n generalizing a with
  | zero => exact ⟨fun _ x h1 h2 => absurd h2 (Nat.not_lt.2 h1), fun _ => rfl⟩
  | succ n ih =>
    rw [allWritable, Bool.and_eq_true, ih]
    constructor
    · intro ⟨h0, h⟩ x h1 h2
      rcases Nat.eq_or_lt_of_le h1 with rfl | h1
      · exact h0
      · exact h x h1 (by omega)
    · intro h
      exact ⟨h a (Nat.le_refl a) (by omega), fun x h1 h2 => h x (Nat.le_of_succ_le h1) (by omega)⟩

theorem doWrite_ok {s : MState} {a : Nat} {bs : List Nat}
    (h : ∀ x, a ≤ x → x < a + bs.length → s.writable x = true) :
    doWrite s a bs = { s with mem := writeMem s.mem a bs, log := Event.write a bs :: s.log } := by
  unfold doWrite
  rw [if_pos ((allWritable_iff _ _ _).mpr h)]

theorem protectSpan_covers (s : MState) (func n : Nat) (x : Nat) (h1 : func ≤ x) (h2 : x < func + n) :
    (doMprotect s (protectSpan func n).1 (protectSpan func n).2).writable x = true := by
  have a1 := pageStart_le func
  have a2 := le_pageUp (func + n)
  exact if_pos ⟨Nat.le_trans a1 h1, show x < pageStart func + (pageUp (func + n) - pageStart func) by omega⟩

theorem injectAsm_ok {s : MState} {a : Nat} {bs : List Nat}
    (h : ∀ x, a ≤ x → x < a + bs.length → s.writable x = true) :
    injectAsm s a bs =
      { s with mem := writeMem s.mem a bs,
               log := Event.flush a (a + bs.length) :: Event.write a bs :: s.log } := by
  unfold injectAsm
  rw [doWrite_ok h]
  rfl

/-- `patch_function` always succeeds in the model: the span made writable covers the patch -/
theorem patchFunction_eq (s : MState) (func : Nat) (bs : List Nat) :
    patchFunction s func bs =
      { s with mem := writeMem s.mem func bs,
               writable := (doMprotect s (protectSpan func bs.length).1 (protectSpan func bs.length).2).writable,
               log := Event.flush func (func + bs.length) :: Event.write func bs ::
                      Event.mprotect (protectSpan func bs.length).1 (protectSpan func bs.length).2 :: s.log } := by
  unfold patchFunction
  rw [injectAsm_ok (protectSpan_covers s func bs.length)]
  simp [doMprotect]

/-- the events `restoreGuard` appends, newest first -/
def restoreEvents (g : Guard) : List Event :=
  Event.flush g.addr (g.addr + g.patchLen) ::
  (if g.jit ≠ 0 then [Event.munmap g.jit g.jitLen] else []) ++
  [Event.flush g.addr (g.addr + (g.saved.take g.patchLen).length), Event.write g.addr (g.saved.take g.patchLen),
   Event.mprotect (protectSpan g.addr (g.saved.take g.patchLen).length).1
     (protectSpan g.addr (g.saved.take g.patchLen).length).2]

/-- `restoreGuard` field by field; nothing below speaks of what is writable after a restore -/
theorem restoreGuard_eq (s : MState) (g : Guard) :
    ∃ w, restoreGuard s g =
      { s with mem := writeMem s.mem g.addr (g.saved.take g.patchLen),
               writable := w,
               maps := if g.jit ≠ 0 then s.maps.erase (g.jit, g.jitLen) else s.maps,
               log := restoreEvents g ++ s.log } := by
  unfold restoreGuard restoreEvents
  rw [patchFunction_eq]
  split <;> exact ⟨_, rfl⟩

theorem restoreGuard_mem (s : MState) (g : Guard) :
    (restoreGuard s g).mem = writeMem s.mem g.addr (g.saved.take g.patchLen) := by
  obtain ⟨_, h⟩ := restoreGuard_eq s g
  rw [h]

theorem restoreGuard_fault (s : MState) (g : Guard) : (restoreGuard s g).fault = s.fault := by
  obtain ⟨_, h⟩ := restoreGuard_eq s g
  rw [h]

theorem restoreGuard_guards (s : MState) (g : Guard) : (restoreGuard s g).guards = s.guards := by
  obtain ⟨_, h⟩ := restoreGuard_eq s g
  rw [h]

theorem restoreGuard_maps (s : MState) (g : Guard) :
    (restoreGuard s g).maps = if g.jit ≠ 0 then s.maps.erase (g.jit, g.jitLen) else s.maps := by
  obtain ⟨_, h⟩ := restoreGuard_eq s g
  rw [h]

theorem restoreGuard_log (s : MState) (g : Guard) : (restoreGuard s g).log = restoreEvents g ++ s.log := by
  obtain ⟨_, h⟩ := restoreGuard_eq s g
  rw [h]

theorem restoreGuard_frame (s : MState) (g : Guard) (x : Nat)
    (h : x < g.addr ∨ g.addr + g.patchLen ≤ x) : (restoreGuard s g).mem x = s.mem x := by
  rw [restoreGuard_mem]
  have := List.length_take_le g.patchLen g.saved
  exact writeMem_out (by omega)

theorem restoreGuard_congr (s t : MState) (g : Guard) (x : Nat) (h : s.mem x = t.mem x) :
    (restoreGuard s g).mem x = (restoreGuard t g).mem x := by
  rw [restoreGuard_mem, restoreGuard_mem]
  exact writeMem_congr _ _ h

theorem restoreGuard_maps_congr (s t : MState) (g : Guard) (h : s.maps = t.maps) :
    (restoreGuard s g).maps = (restoreGuard t g).maps := by
  rw [restoreGuard_maps, restoreGuard_maps, h]

theorem dropGuards_append (s : MState) (as bs : List Guard) :
    dropGuards s (as ++ bs) = dropGuards (dropGuards s as) bs := by
  induction as generalizing s with
  | nil => rfl
  | cons a as ih => simp [dropGuards, ih]

theorem dropGuards_invariant {P : MState → Prop} {gs : List Guard}
    (step : ∀ t, ∀ g ∈ gs, P t → P (restoreGuard t g)) {s : MState} (h : P s) : P (dropGuards s gs) := by
  induction gs generalizing s with
  | nil => exact h
  | cons g gs ih =>
    exact ih (fun t g' hg' => step t g' (by simp [hg'])) (step s g (by simp) h)

theorem dropGuards_fault (s : MState) (gs : List Guard) : (dropGuards s gs).fault = s.fault :=
  dropGuards_invariant (P := fun t => t.fault = s.fault)
    (fun t g _ h => (restoreGuard_fault t g).trans h) rfl

theorem dropGuards_frame (s : MState) (gs : List Guard) (x : Nat)
    (hx : ∀ g ∈ gs, x < g.addr ∨ g.addr + g.patchLen ≤ x) : (dropGuards s gs).mem x = s.mem x :=
  dropGuards_invariant (P := fun t => t.mem x = s.mem x)
    (fun t g hg h => (restoreGuard_frame t g x (hx g hg)).trans h) rfl

theorem dropGuards_congr (s t : MState) (gs : List Guard) (x : Nat) (h : s.mem x = t.mem x) :
    (dropGuards s gs).mem x = (dropGuards t gs).mem x := by
  induction gs generalizing s t with
  | nil => exact h
  | cons g gs ih => exact ih _ _ (restoreGuard_congr s t g x h)

theorem dropGuards_maps_congr (s t : MState) (gs : List Guard) (h : s.maps = t.maps) :
    (dropGuards s gs).maps = (dropGuards t gs).maps := by
  induction gs generalizing s t with
  | nil => exact h
  | cons g gs ih => exact ih _ _ (restoreGuard_maps_congr s t g h)

/-- memory right after the trampoline was mapped and filled -/
def afterJit (m : Mem) (jit size : Nat) (code : List Nat) : Mem :=
  writeMem (fun x => if jit ≤ x ∧ x < jit + pageUp size then 0 else m x) jit code

/-- the events a successful installation appends, newest first -/
def installEvents (func jit size : Nat) (code br : List Nat) : List Event :=
  [Event.ret, Event.flush func (func + br.length), Event.write func br,
   Event.mprotect (protectSpan func br.length).1 (protectSpan func br.length).2,
   Event.flush jit (jit + code.length), Event.write jit code, Event.mmap jit size]

/-- the state a successful installation leaves, given the two byte strings it wrote -/
def installed (s : MState) (func jit size : Nat) (code br : List Nat) : MState :=
  { mem := writeMem (afterJit s.mem jit size code) func br,
    writable := (doMprotect (doMmap s jit size) (protectSpan func br.length).1 (protectSpan func br.length).2).writable,
    maps := s.maps ++ [(jit, size)],
    guards := s.guards ++ [⟨func, readMem (afterJit s.mem jit size code) func br.length, br.length, jit, size⟩],
    log := installEvents func jit size code br ++ s.log,
    fault := s.fault }

theorem installed_mem (s : MState) (func jit size : Nat) (code br : List Nat) :
    (installed s func jit size code br).mem = writeMem (afterJit s.mem jit size code) func br := rfl

theorem installed_maps (s : MState) (func jit size : Nat) (code br : List Nat) :
    (installed s func jit size code br).maps = s.maps ++ [(jit, size)] := rfl

/-- either trampoline takes one page, the page `inJit` speaks of -/
theorem pageUp_jitSize (p : Payload) : pageUp p.jitSize = 4096 := by
  cases p
  · exact (by decide : pageUp X86.jitSizeExec = 4096)
  · exact (by decide : pageUp X86.jitSizeBool = 4096)

theorem payloadCode_exec {mode : Mode} {fake jit : Nat} {code : List Nat} :
    payloadCode mode (Payload.exec fake) jit = some code ↔ X86.genBranch mode jit fake = Res.ok code := by
  simp only [payloadCode]
  cases hg : X86.genBranch mode jit fake <;> simp

theorem payloadCode_length_le {mode : Mode} {p : Payload} {jit : Nat} {c : List Nat}
    (h : payloadCode mode p jit = some c) : c.length ≤ 12 := by
  cases p with
  | exec fake =>
    exact X86.genBranch_length_le (payloadCode_exec.mp h)
  | bool v =>
    cases h
    rw [X86.boolStub_length]; decide

/-- **Characterisation of a successful install**: both encoders succeeded and the state is
    `installed`; in particular no write faults, since the fresh page and the protected span are
    writable. -/
theorem installX86_eq {mode : Mode} {s s' : MState} {func : Nat} {p : Payload} {jit : Nat}
    (h : installX86 mode s func p jit = some s') :
    ∃ code br, payloadCode mode p jit = some code ∧ X86.genBranch mode func jit = Res.ok br ∧
      s' = installed s func jit p.jitSize code br := by
  unfold installX86 at h
  cases hc : payloadCode mode p jit with
  | none => simp [hc] at h
  | some code =>
    cases hb : X86.genBranch mode func jit with
    | panic w => simp [hc, hb] at h
    | ok br =>
      -- the code fits into the page just mapped
      have hw : ∀ x, jit ≤ x → x < jit + code.length → (doMmap s jit p.jitSize).writable x = true := by
        intro x h1 h2
        have hl := payloadCode_length_le hc
        simp only [doMmap, pageUp_jitSize]
        rw [if_pos (by omega)]
      simp only [hc, hb, injectAsm_ok hw, patchFunction_eq] at h
      cases h
      exact ⟨code, br, rfl, rfl, rfl⟩

theorem afterJit_out {mode : Mode} {p : Payload} {jit : Nat} {code : List Nat} (hc : payloadCode mode p jit = some code)
    {m : Mem} {x : Nat} (hx : ¬ (jit ≤ x ∧ x < jit + 4096)) : afterJit m jit p.jitSize code x = m x := by
  have hl := payloadCode_length_le hc
  unfold afterJit
  rw [writeMem_out (by omega), pageUp_jitSize, if_neg hx]

theorem installs_cons {mode : Mode} {s sf : MState} {r : Req} {rs : List Req} :
    installs mode s (r :: rs) = some sf ↔
      ∃ s1, installX86 mode s r.func r.payload r.jit = some s1 ∧ installs mode s1 rs = some sf := by
  simp only [installs]
  cases installX86 mode s r.func r.payload r.jit <;> simp

theorem installs_append {mode : Mode} {s sf : MState} {as bs : List Req} :
    installs mode s (as ++ bs) = some sf ↔
      ∃ sm, installs mode s as = some sm ∧ installs mode sm bs = some sf := by
  induction as generalizing s with
  | nil => simp [installs]
  | cons a as ih =>
    simp only [List.cons_append, installs_cons, ih]
    exact ⟨fun ⟨s1, h1, sm, h2, h3⟩ => ⟨sm, ⟨s1, h1, h2⟩, h3⟩, fun ⟨sm, ⟨s1, h1, h2⟩, h3⟩ => ⟨s1, h1, sm, h2, h3⟩⟩

theorem installs_invariant {P : MState → Prop} {mode : Mode} {rs : List Req}
    (step : ∀ t t', ∀ r ∈ rs, installX86 mode t r.func r.payload r.jit = some t' → P t → P t')
    {s sf : MState} (h : installs mode s rs = some sf) (hs : P s) : P sf := by
  induction rs generalizing s with
  | nil => cases h; exact hs
  | cons r rs ih =>
    obtain ⟨s1, h1, h⟩ := installs_cons.mp h
    exact ih (fun t t' r' hr' => step t t' r' (by simp [hr'])) h (step s s1 r (by simp) h1 hs)

/-- the page the trampoline of `r` takes: `pageUp_jitSize` -/
def inJit (r : Req) (x : Nat) : Prop := r.jit ≤ x ∧ x < r.jit + 4096
/-- the longest entry patch: `genBranch_length_le` -/
def inSlot (r : Req) (x : Nat) : Prop := r.func ≤ x ∧ x < r.func + 12

/-- freshness of the trampoline mappings as the OS guarantees it, in the order of installation;
    `r.jit ≠ 0` because `restoreGuard` does not unmap a null trampoline -/
def FreshMaps : List (Nat × Nat) → List Req → Prop
  | _, [] => True
  | maps, r :: rs => (r.jit, r.payload.jitSize) ∉ maps ∧ r.jit ≠ 0 ∧ FreshMaps (maps ++ [(r.jit, r.payload.jitSize)]) rs

theorem installX86_frame {mode : Mode} {s s1 : MState} {r : Req}
    (h : installX86 mode s r.func r.payload r.jit = some s1) (x : Nat)
    (hx : ¬ inJit r x ∧ ¬ inSlot r x) : s1.mem x = s.mem x := by
  obtain ⟨code, br, hc, hb, rfl⟩ := installX86_eq h
  have hbl := X86.genBranch_length_le hb
  have hs := hx.2
  rw [installed_mem, writeMem_out (by unfold inSlot at hs; omega), afterJit_out hc hx.1]

theorem installX86_restore {mode : Mode} {s s1 : MState} {r : Req}
    (h : installX86 mode s r.func r.payload r.jit = some s1)
    (hfresh : (r.jit, r.payload.jitSize) ∉ s.maps) (hnz : r.jit ≠ 0) :
    ∃ g, s1.guards = s.guards ++ [g] ∧ s1.maps = s.maps ++ [(r.jit, r.payload.jitSize)] ∧
      (∀ x, ¬ inJit r x → (restoreGuard s1 g).mem x = s.mem x) ∧
      (restoreGuard s1 g).maps = s.maps ∧ s1.fault = s.fault := by
  obtain ⟨code, br, hc, hb, rfl⟩ := installX86_eq h
  refine ⟨_, rfl, rfl, fun x hx => ?_, ?_, rfl⟩
  · rw [restoreGuard_mem, installed_mem]
    simp only [take_readMem]
    exact (writeMem_undo _ _ _ _).trans (afterJit_out hc hx)
  · rw [restoreGuard_maps, if_pos hnz, installed_maps, List.erase_append_right _ hfresh, List.erase_cons_head,
      List.append_nil]

/-- **LIFO restoration.**  After any install history, restoring the new guards newest first
    gives back the starting memory everywhere outside the trampoline pages, and the starting
    set of mappings.  No separation of entry ranges from each other or from the trampolines is
    needed: a restore writes back what its own installation saved. -/
theorem installs_restore {mode : Mode} {rs : List Req} {s sf : MState}
    (h : installs mode s rs = some sf) (hfresh : FreshMaps s.maps rs) :
    ∃ gs, sf.guards = s.guards ++ gs ∧ gs.length = rs.length ∧
      (∀ x, (∀ r ∈ rs, ¬ inJit r x) → (dropGuards sf gs.reverse).mem x = s.mem x) ∧
      (dropGuards sf gs.reverse).maps = s.maps ∧ sf.fault = s.fault := by
  induction rs generalizing s with
  | nil => cases h; exact ⟨[], by simp, rfl, fun x _ => rfl, rfl, rfl⟩
  | cons r rs ih =>
    obtain ⟨hf1, hnz, hf2⟩ := hfresh
    obtain ⟨s1, h1, h⟩ := installs_cons.mp h
    obtain ⟨g, hg, hm, hmem1, hmaps1, hfault1⟩ := installX86_restore h1 hf1 hnz
    rw [← hm] at hf2
    obtain ⟨gs, hgs, hlen, hmem, hmaps, hfault⟩ := ih h hf2
    refine ⟨g :: gs, by rw [hgs, hg]; simp, by simp [hlen], fun x hx => ?_, ?_, hfault.trans hfault1⟩
    · rw [List.reverse_cons, dropGuards_append]
      exact (restoreGuard_congr _ s1 g x (hmem x fun r' hr' => hx r' (by simp [hr']))).trans
        (hmem1 x (hx r (by simp)))
    · rw [List.reverse_cons, dropGuards_append]
      exact (restoreGuard_maps_congr _ s1 g hmaps).trans hmaps1

/-- `installs_restore` under the further hypothesis, which it does not need, that no trampoline
    page overlaps the entry range it serves -/
theorem installs_undo (mode : Mode) (rs : List Req) :
    ∀ (s sf : MState), installs mode s rs = some sf →
      (∀ r ∈ rs, ∀ x, inJit r x → ¬ inSlot r x) → FreshMaps s.maps rs →
      ∃ gs, sf.guards = s.guards ++ gs ∧ gs.length = rs.length ∧
        (∀ x, (∀ r ∈ rs, ¬ inJit r x) → (dropGuards sf gs.reverse).mem x = s.mem x) ∧
        (dropGuards sf gs.reverse).maps = s.maps ∧ sf.fault = s.fault :=
  fun _ _ h _ hfresh => installs_restore h hfresh

theorem installs_frame {mode : Mode} {rs : List Req} {s sf : MState} (h : installs mode s rs = some sf)
    (x : Nat) (hx : ∀ r ∈ rs, ¬ inJit r x ∧ ¬ inSlot r x) : sf.mem x = s.mem x :=
  installs_invariant (P := fun t => t.mem x = s.mem x)
    (fun _ _ r hr h1 ht => (installX86_frame h1 x (hx r hr)).trans ht) h rfl

theorem dirtyAfter_append (d : List Nat) (e1 e2 : List Event) :
    dirtyAfter d (e1 ++ e2) = (dirtyAfter d e1).bind (fun d' => dirtyAfter d' e2) := by
  induction e1 generalizing d with
  | nil => simp [dirtyAfter]
  | cons e es ih =>
    cases e <;> simp only [List.cons_append, dirtyAfter, ih]
    split <;> simp

theorem dirty_write_flush (a : Nat) (bs : List Nat) (es : List Event) :
    dirtyAfter [] (Event.write a bs :: Event.flush a (a + bs.length) :: es) = dirtyAfter [] es := by
  simp only [dirtyAfter, List.nil_append]
  -- every address written lies in the range flushed
  rw [List.filter_eq_nil_iff.mpr]
  intro x hx
  obtain ⟨i, hi, rfl⟩ := List.mem_map.1 hx
  simp [List.mem_range.1 hi]

theorem flushClean_append {ev log : List Event} (hev : dirtyAfter [] ev.reverse = some [])
    (h : flushClean log) : flushClean (ev ++ log) := by
  unfold flushClean at *
  rw [List.reverse_append, dirtyAfter_append, h]
  exact hev

theorem installX86_flushClean {mode : Mode} {s s' : MState} {func : Nat} {p : Payload} {jit : Nat}
    (h : installX86 mode s func p jit = some s') (hc : flushClean s.log) : flushClean s'.log := by
  obtain ⟨code, br, _, _, rfl⟩ := installX86_eq h
  refine flushClean_append ?_ hc
  -- `installEvents`, oldest first: each of the two writes is followed by its flush
  show dirtyAfter [] [Event.mmap jit p.jitSize, Event.write jit code, Event.flush jit (jit + code.length),
    Event.mprotect _ _, Event.write func br, Event.flush func (func + br.length), Event.ret] = some []
  rw [dirtyAfter, dirty_write_flush, dirtyAfter, dirty_write_flush]
  rfl

theorem restoreGuard_flushClean (s : MState) (g : Guard) (hc : flushClean s.log) :
    flushClean (restoreGuard s g).log := by
  rw [restoreGuard_log]
  refine flushClean_append ?_ hc
  simp only [restoreEvents, List.reverse_cons, List.reverse_append, List.reverse_nil, List.nil_append,
    List.cons_append]
  rw [dirtyAfter, dirty_write_flush]
  split <;> rfl

theorem dropGuards_flushClean (s : MState) (gs : List Guard) (h : flushClean s.log) :
    flushClean (dropGuards s gs).log :=
  dropGuards_invariant (P := fun t => flushClean t.log) (fun t g _ => restoreGuard_flushClean t g) h

theorem installs_flushClean {mode : Mode} {rs : List Req} {s sf : MState}
    (h : installs mode s rs = some sf) (hc : flushClean s.log) : flushClean sf.log :=
  installs_invariant (P := fun t => flushClean t.log) (fun _ _ _ _ => installX86_flushClean) h hc

theorem munmapsOf_append (a b : List Event) : munmapsOf (a ++ b) = munmapsOf a ++ munmapsOf b := by
  induction a with
  | nil => rfl
  | cons e es ih => cases e <;> simp [munmapsOf, ih]

theorem mmapsOf_append (a b : List Event) : mmapsOf (a ++ b) = mmapsOf a ++ mmapsOf b := by
  induction a with
  | nil => rfl
  | cons e es ih => cases e <;> simp [mmapsOf, ih]

theorem restoreEvents_munmaps (g : Guard) :
    munmapsOf (restoreEvents g).reverse = if g.jit ≠ 0 then [(g.jit, g.jitLen)] else [] := by
  unfold restoreEvents
  split <;> rfl

theorem restoreEvents_mmaps (g : Guard) : mmapsOf (restoreEvents g).reverse = [] := by
  unfold restoreEvents
  split <;> rfl

theorem dropGuards_log (s : MState) (gs : List Guard) :
    ∃ ev, (dropGuards s gs).log = ev ++ s.log ∧
      munmapsOf ev.reverse = (gs.filter (fun g => g.jit ≠ 0)).map (fun g => (g.jit, g.jitLen)) ∧
      mmapsOf ev.reverse = [] := by
  induction gs generalizing s with
  | nil => exact ⟨[], rfl, rfl, rfl⟩
  | cons g gs ih =>
    obtain ⟨ev, h1, h2, h3⟩ := ih (restoreGuard s g)
    refine ⟨ev ++ restoreEvents g, by rw [dropGuards, h1, restoreGuard_log, List.append_assoc], ?_, ?_⟩
    · rw [List.reverse_append, munmapsOf_append, h2, restoreEvents_munmaps, List.filter_cons]
      split <;> simp [*]
    · rw [List.reverse_append, mmapsOf_append, h3, restoreEvents_mmaps]; rfl

/-- What a history appends: one guard per request, in order, with the request's entry and trampoline; to the
    log, events whose `mmap`s are the requests' trampolines, in order, and no `munmap`. -/
theorem installs_guards_log {mode : Mode} {rs : List Req} {s sf : MState} (h : installs mode s rs = some sf) :
    (∃ gs, sf.guards = s.guards ++ gs ∧
      gs.map (fun g => (g.jit, g.jitLen)) = rs.map (fun r => (r.jit, r.payload.jitSize)) ∧
      ∀ g ∈ gs, ∃ r ∈ rs, g.addr = r.func ∧ g.patchLen ≤ 12 ∧ g.jit = r.jit) ∧
    ∃ ev, sf.log = ev ++ s.log ∧
      mmapsOf ev.reverse = rs.map (fun r => (r.jit, r.payload.jitSize)) ∧ munmapsOf ev.reverse = [] := by
  induction rs generalizing s with
  | nil => cases h; exact ⟨⟨[], by simp, rfl, by simp⟩, [], rfl, rfl, rfl⟩
  | cons r rs ih =>
    obtain ⟨s1, h1, h⟩ := installs_cons.mp h
    obtain ⟨code, br, _, hb, rfl⟩ := installX86_eq h1
    obtain ⟨⟨gs, hgs, hmap, hall⟩, ev, hev, hmm, hmu⟩ := ih h
    -- `hgs` has `(s.guards ++ [g]) ++ gs` for the guard `g` of `installed`; `[g] ++ gs` is `g :: gs` by definition
    refine ⟨⟨_ :: gs, hgs.trans (List.append_assoc _ _ _), by rw [List.map_cons, hmap]; rfl, fun g hgm => ?_⟩,
      ev ++ installEvents r.func r.jit r.payload.jitSize code br, by rw [hev, List.append_assoc]; rfl,
      by rw [List.reverse_append, mmapsOf_append, hmm]; rfl,
      by rw [List.reverse_append, munmapsOf_append, hmu]; rfl⟩
    rcases List.mem_cons.mp hgm with rfl | hin
    · exact ⟨r, by simp, rfl, X86.genBranch_length_le hb, rfl⟩
    · obtain ⟨r', hr', hp⟩ := hall g hin
      exact ⟨r', by simp [hr'], hp⟩

/-- only rip and rax may differ -/
def SameButRax (c c' : X86.Cpu) : Prop :=
  (∀ i, i ≠ 0 → c'.gpr i = c.gpr i) ∧ c'.xmm = c.xmm ∧ c'.flags = c.flags

theorem SameButRax.trans {a b d : X86.Cpu} (h1 : SameButRax a b) (h2 : SameButRax b d) : SameButRax a d :=
  ⟨fun i hi => (h2.1 i hi).trans (h1.1 i hi), h2.2.1.trans h1.2.1, h2.2.2.trans h1.2.2⟩

/-- `genBranch_run` without the case distinction between the two encodings -/
theorem genBranch_reaches {mode : Mode} {ori target : Nat} {bs : List Nat} (ht : target < 18446744073709551616)
    (h : X86.genBranch mode ori target = Res.ok bs)
    {m : Mem} (hm : X86.Holds m ori bs) (c : X86.Cpu) (hc : c.rip = ori) :
    ∃ k c', k ≤ 2 ∧ X86.run m k c = some c' ∧ c'.rip = target ∧ SameButRax c c' := by
  rcases X86.genBranch_run ht h hm c hc with r | r
  · exact ⟨1, _, by omega, r, rfl, fun _ _ => rfl, rfl, rfl⟩
  · exact ⟨2, _, by omega, r, rfl, fun i hi => by simp [X86.setReg, hi], rfl, rfl⟩

/-- the trampoline page being clear of the entry, both byte strings are still in place after the install -/
theorem installX86_holds {mode : Mode} {s s1 : MState} {func : Nat} {p : Payload} {jit : Nat}
    (h : installX86 mode s func p jit = some s1)
    (hdis : ∀ x, (jit ≤ x ∧ x < jit + 4096) → ¬ (func ≤ x ∧ x < func + 12)) :
    ∃ code br, payloadCode mode p jit = some code ∧ X86.genBranch mode func jit = Res.ok br ∧
      X86.Holds s1.mem func br ∧ X86.Holds s1.mem jit code := by
  obtain ⟨code, br, hc, hb, rfl⟩ := installX86_eq h
  have hbl := X86.genBranch_length_le hb
  have hcl := payloadCode_length_le hc
  refine ⟨code, br, hc, hb, X86.holds_writeMem _ _ _,
    X86.holds_congr (X86.holds_writeMem _ _ _) fun x h1 h2 => writeMem_out fun hin => ?_⟩
  exact hdis x ⟨h1, by omega⟩ ⟨hin.1, by omega⟩

/-- memory `m` carries an installed redirection of `func` through `jit` to `fake` -/
def Redirects (mode : Mode) (m : Mem) (func jit fake : Nat) : Prop :=
  ∃ br code, X86.genBranch mode func jit = Res.ok br ∧ X86.genBranch mode jit fake = Res.ok code ∧
    X86.Holds m func br ∧ X86.Holds m jit code

theorem installX86_redirects {mode : Mode} {s s1 : MState} {func fake jit : Nat}
    (h : installX86 mode s func (Payload.exec fake) jit = some s1)
    (hdis : ∀ x, (jit ≤ x ∧ x < jit + 4096) → ¬ (func ≤ x ∧ x < func + 12)) :
    Redirects mode s1.mem func jit fake := by
  obtain ⟨code, br, hc, hb, h1, h2⟩ := installX86_holds h hdis
  exact ⟨br, code, hb, payloadCode_exec.mp hc, h1, h2⟩

/-- a call of a redirected function reaches the fake: two generated branches in a row -/
theorem redirects_reaches {mode : Mode} {m : Mem} {func jit fake : Nat}
    (hj : jit < 18446744073709551616) (hk : fake < 18446744073709551616)
    (h : Redirects mode m func jit fake) (c : X86.Cpu) (hc : c.rip = func) :
    ∃ k c', k ≤ 4 ∧ X86.run m k c = some c' ∧ c'.rip = fake ∧ SameButRax c c' := by
  obtain ⟨br, code, hbr, hcode, hold1, hold2⟩ := h
  obtain ⟨k1, c1, hk1, r1, e1, s1⟩ := genBranch_reaches hj hbr hold1 c hc
  obtain ⟨k2, c2, hk2, r2, e2, s2⟩ := genBranch_reaches hk hcode hold2 c1 e1
  exact ⟨k1 + k2, c2, by omega, X86.run_trans r1 r2, e2, s1.trans s2⟩

theorem redirects_frame {mode : Mode} {m m' : Mem} {func jit fake : Nat}
    (h : Redirects mode m func jit fake)
    (hsame : ∀ x, (func ≤ x ∧ x < func + 12) ∨ (jit ≤ x ∧ x < jit + 4096) → m' x = m x) :
    Redirects mode m' func jit fake := by
  obtain ⟨br, code, hbr, hcode, h1, h2⟩ := h
  have hbl := X86.genBranch_length_le hbr
  have hcl := X86.genBranch_length_le hcode
  exact ⟨br, code, hbr, hcode,
    X86.holds_congr h1 fun x hx1 hx2 => hsame x (Or.inl ⟨hx1, by omega⟩),
    X86.holds_congr h2 fun x hx1 hx2 => hsame x (Or.inr ⟨hx1, by omega⟩)⟩

/-- **Latest wins.**  In a history `pre ++ [r] ++ post` where no later request touches the entry
    range or the trampoline page of `r`, the redirection `r` installed is in place at the end:
    whatever `pre` did at `r.func` was overwritten, and `post` left it alone. -/
theorem latest_wins {mode : Mode} {pre post : List Req} {func fake jit : Nat} {s0 sf : MState}
    (h : installs mode s0 (pre ++ Req.mk func (Payload.exec fake) jit :: post) = some sf)
    (hdis : ∀ x, (jit ≤ x ∧ x < jit + 4096) → ¬ (func ≤ x ∧ x < func + 12))
    (hsep : ∀ r ∈ post, ∀ x, (func ≤ x ∧ x < func + 12) ∨ (jit ≤ x ∧ x < jit + 4096) → ¬ inJit r x ∧ ¬ inSlot r x) :
    Redirects mode sf.mem func jit fake := by
  obtain ⟨sm, _, h⟩ := installs_append.mp h
  obtain ⟨s1, h1, h⟩ := installs_cons.mp h
  exact redirects_frame (installX86_redirects h1 hdis) fun x hx => installs_frame h x fun r hr => hsep r hr x hx

theorem installX86_bool_returns {mode : Mode} {s s1 : MState} {func jit : Nat} {v : Bool}
    (h : installX86 mode s func (Payload.bool v) jit = some s1)
    (hdis : ∀ x, (jit ≤ x ∧ x < jit + 4096) → ¬ (func ≤ x ∧ x < func + 12))
    (hj : jit < 18446744073709551616) (c : X86.Cpu) (hc : c.rip = func) :
    ∃ k c', k ≤ 4 ∧ X86.run s1.mem k c = some c' ∧
      c'.rip = X86.rd64 s1.mem (c.gpr 4) ∧ c'.gpr 0 = (if v then 1 else 0) ∧
      c'.gpr 4 = (c.gpr 4 + 8) % 18446744073709551616 ∧
      (∀ i, i ≠ 0 → i ≠ 4 → c'.gpr i = c.gpr i) ∧ c'.xmm = c.xmm ∧ c'.flags = c.flags := by
  obtain ⟨code, br, hcode, hbr, hold1, hold2⟩ := installX86_holds h hdis
  cases hcode
  -- the branch leaves everything but rip and rax as the caller had it, so the stub pops the caller's stack
  obtain ⟨k, c1, hk, r1, e1, hg, hx, hfl⟩ := genBranch_reaches hj hbr hold1 c hc
  refine ⟨k + 2, _, by omega, X86.run_trans r1 (X86.boolStub_run hold2 c1 e1),
    by rw [← hg 4 (by decide)], ?_, ?_, fun i h0 h4 => ?_, hx, hfl⟩
  · simp [X86.setReg]
  · simp [X86.setReg, hg 4]
  · simp [X86.setReg, h0, h4, hg i h0]

end Inj.Machine
