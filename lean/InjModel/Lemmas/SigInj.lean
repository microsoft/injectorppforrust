/-
  Lemmas/SigInj.lean — the rendering is injective, as unique readability: `render t ++ r`, with `r` empty or
  starting with a closer, determines `t` and `r` (`inj_render` and its companions for argument lists, tuples and
  function-pointer types, by mutual structural recursion); the type on the other side is read off the first
  token (`ty_of_hd`).  At the end, the token-level gate of C10 on a rendered type (`boolGateTopLevel_renderFn`).
-/
import InjModel.Lemmas.Sig
namespace Inj.Sig

/-- tokens that may follow a complete type inside a rendering -/
def isCloser : Tok → Bool
  | Tok.rp => true | Tok.gt => true | Tok.rb => true | Tok.comma => true | Tok.semi => true
  | _ => false

/-- what follows a complete type: nothing, or a closing / separating token (never `<`, `->`, `(`) -/
def Follow : List Tok → Prop
  | [] => True
  | x :: _ => isCloser x = true

/-- an argument list is always followed by the closing `)` or `>` -/
def Close : List Tok → Prop
  | Tok.rp :: _ => True
  | Tok.gt :: _ => True
  | _ => False

/-- first token of a rendered function-pointer type -/
def hdFn : FnTy → Tok
  | FnTy.mk u abi _ _ => if u then Tok.unsafe_ else if abi = 0 then Tok.fn_ else Tok.extern_ abi

/-- first token of a rendered type -/
def hd : Ty → Tok
  | Ty.prim n => Tok.id n
  | Ty.ref _ _ => Tok.amp
  | Ty.ptr _ _ => Tok.star
  | Ty.tuple _ => Tok.lp
  | Ty.slice _ => Tok.lb
  | Ty.array _ _ => Tok.lb
  | Ty.app n _ => Tok.id n
  | Ty.fn_ f => hdFn f
  | Ty.dynfn _ _ => Tok.dyn_

theorem follow_cons_closer (x : Tok) (r : List Tok) (h : isCloser x = true) : Follow (x :: r) := h

theorem close_rp (r : List Tok) : Close (Tok.rp :: r) := trivial

theorem close_gt (r : List Tok) : Close (Tok.gt :: r) := trivial

theorem close_follow {r : List Tok} (h : Close r) : Follow r := by
  unfold Close at h
  split at h
  · exact rfl
  · exact rfl
  · exact h.elim

theorem hdFn_cases (f : FnTy) : hdFn f = Tok.unsafe_ ∨ hdFn f = Tok.fn_ ∨ ∃ a, hdFn f = Tok.extern_ a := by
  cases f with
  | mk u abi ps r =>
    cases u
    · by_cases h : abi = 0
      · exact .inr (.inl (if_pos h))
      · exact .inr (.inr ⟨abi, if_neg h⟩)
    · exact .inl rfl

theorem renderFn_head (f : FnTy) : ∃ tl, renderFn f = hdFn f :: tl := by
  cases f with
  | mk u abi ps r =>
    rw [renderFn_eq]
    cases u <;> by_cases h : abi = 0 <;> simp [quals, hdFn, h]

theorem render_head (t : Ty) : ∃ tl, render t = hd t :: tl := by
  cases t with
  | fn_ f => rw [render]; exact renderFn_head f
  | _ => rw [render]; exact ⟨_, rfl⟩

theorem hd_opens (t : Ty) : isCloser (hd t) = false ∧ hd t ≠ Tok.mut_ ∧ hd t ≠ Tok.arrow := by
  cases t with
  | fn_ f =>
    rcases hdFn_cases f with e | e | ⟨a, e⟩ <;> rw [hd, e]
    all_goals exact ⟨rfl, nofun, nofun⟩
  | _ => exact ⟨rfl, nofun, nofun⟩

theorem hd_ne_arrow (t : Ty) : hd t ≠ Tok.arrow := (hd_opens t).2.2

/-- the first token determines the constructor, up to `T` / `T<..>` and `[T]` / `[T; n]` -/
theorem ty_of_hd {x : Tok} {t : Ty} (h : x = hd t) :
    match (generalizing := false) x with
    | Tok.id n => t = Ty.prim n ∨ ∃ args, t = Ty.app n args
    | Tok.amp => ∃ m u, t = Ty.ref m u
    | Tok.star => ∃ m u, t = Ty.ptr m u
    | Tok.lp => ∃ ts, t = Ty.tuple ts
    | Tok.lb => (∃ u, t = Ty.slice u) ∨ ∃ u n, t = Ty.array u n
    | Tok.dyn_ => ∃ ps r, t = Ty.dynfn ps r
    | _ => ∃ f, t = Ty.fn_ f := by
  subst h
  cases t with
  | prim n => exact .inl rfl
  | ref m u => exact ⟨m, u, rfl⟩
  | ptr m u => exact ⟨m, u, rfl⟩
  | tuple ts => exact ⟨ts, rfl⟩
  | slice u => exact .inl ⟨u, rfl⟩
  | array u n => exact .inr ⟨u, n, rfl⟩
  | app n args => exact .inr ⟨args, rfl⟩
  | fn_ f =>
    rcases hdFn_cases f with e | e | ⟨a, e⟩ <;> rw [hd, e]
    all_goals exact ⟨f, rfl⟩
  | dynfn ps r => exact ⟨ps, r, rfl⟩

theorem ty_of_hdFn {f : FnTy} {t : Ty} (h : hdFn f = hd t) : ∃ f', t = Ty.fn_ f' := by
  have := ty_of_hd h
  rcases hdFn_cases f with e | e | ⟨a, e⟩ <;> rw [e] at this
  all_goals exact this

theorem hd_eq_of_append_eq (t t' : Ty) (r r' : List Tok) (h : render t ++ r = render t' ++ r') : hd t = hd t' := by
  obtain ⟨tl1, e1⟩ := render_head t
  obtain ⟨tl2, e2⟩ := render_head t'
  rw [e1, e2] at h
  exact (List.cons.inj h).1

theorem not_follow_render (t : Ty) (r : List Tok) : ¬ Follow (render t ++ r) := by
  obtain ⟨tl, e⟩ := render_head t
  rw [e]
  intro (h : isCloser (hd t) = true)
  rw [(hd_opens t).1] at h
  cases h

theorem not_follow_args (t : Ty) (ts : TyList) (r : List Tok) : ¬ Follow (renderArgs (TyList.cons t ts) ++ r) := by
  rw [renderArgs_cons, List.append_assoc]; exact not_follow_render t _

theorem follow_argsTail (ts : TyList) {r : List Tok} (hc : Close r) : Follow (argsTail ts ++ r) := by
  cases ts with
  | nil => exact close_follow hc
  | cons a as => exact rfl

theorem not_follow_tuple (t : Ty) (ts : TyList) (r : List Tok) : ¬ Follow (renderTuple (TyList.cons t ts) ++ r) := by
  rw [renderTuple_cons, List.append_assoc]; exact not_follow_render t _

/-- an optional token is read off when what may follow never starts with it -/
theorem inj_opt {c c' : Prop} [Decidable c] [Decidable c'] {x x' : Tok} {l l' : List Tok}
    (h : (if c then [x] else []) ++ l = (if c' then [x'] else []) ++ l')
    (hl : ∀ tl, l ≠ x' :: tl) (hl' : ∀ tl, l' ≠ x :: tl) : (c ↔ c') ∧ (c → x = x') ∧ l = l' := by
  by_cases hc : c <;> by_cases hc' : c'
  · rw [if_pos hc, if_pos hc'] at h
    exact ⟨iff_of_true hc hc', fun _ => (List.cons.inj h).1, (List.cons.inj h).2⟩
  · rw [if_pos hc, if_neg hc'] at h
    exact absurd h.symm (hl' _)
  · rw [if_neg hc, if_pos hc'] at h
    exact absurd h (hl _)
  · rw [if_neg hc, if_neg hc'] at h
    exact ⟨iff_of_false hc hc', fun k => absurd k hc, h⟩

theorem inj_mut {m m' : Bool} {u u' : Ty} {l l' : List Tok}
    (h : (if m then [Tok.mut_] else []) ++ (render u ++ l) = (if m' then [Tok.mut_] else []) ++ (render u' ++ l')) :
    m = m' ∧ render u ++ l = render u' ++ l' := by
  have key : ∀ (u : Ty) (l tl : List Tok), render u ++ l ≠ Tok.mut_ :: tl := by
    intro u l tl e
    obtain ⟨tl', e'⟩ := render_head u
    rw [e'] at e
    exact (hd_opens u).2.1 (List.cons.inj e).1
  obtain ⟨hm, -, e⟩ := inj_opt h (key u l) (key u' l')
  exact ⟨Bool.eq_iff_iff.mpr hm, e⟩

theorem inj_quals {u u' : Bool} {a a' : Nat} {l l' : List Tok}
    (h : quals u a ++ Tok.fn_ :: l = quals u' a' ++ Tok.fn_ :: l') : u = u' ∧ a = a' ∧ l = l' := by
  rw [quals, quals, List.append_assoc, List.append_assoc] at h
  obtain ⟨hu, -, h⟩ := inj_opt h (by split <;> nofun) (by split <;> nofun)
  obtain ⟨ha, hx, h⟩ := inj_opt h nofun nofun
  refine ⟨Bool.eq_iff_iff.mpr hu, ?_, (List.cons.inj h).2⟩
  by_cases h0 : a = 0
  · rw [h0, Decidable.not_not.mp (mt ha.mpr (fun k => k h0))]
  · exact Tok.extern_.inj (hx h0)

/-- `-> T` is present on both sides or on neither: `->` may not follow a type -/
theorem ret_split {t t' : Ty} {r r' : List Tok} (h : renderRet t ++ r = renderRet t' ++ r')
    (hr : Follow r) (hr' : Follow r') :
    (t = unitTy ∧ t' = unitTy ∧ r = r') ∨ render t ++ r = render t' ++ r' := by
  by_cases e : t = unitTy <;> by_cases e' : t' = unitTy
  · rw [e, e', renderRet_unit] at h; exact .inl ⟨e, e', h⟩
  · rw [e, renderRet_unit, renderRet_of_ne e'] at h
    rw [show r = _ from h] at hr; cases hr
  · rw [e', renderRet_unit, renderRet_of_ne e] at h
    rw [show r' = _ from h.symm] at hr'; cases hr'
  · rw [renderRet_of_ne e, renderRet_of_ne e'] at h
    exact .inr (List.cons.inj h).2

mutual
/-- unique readability: a rendering followed by a closer (or by nothing) determines the type and
    where it ends -/
theorem inj_render (t t' : Ty) (r r' : List Tok) (h : render t ++ r = render t' ++ r')
    (hr : Follow r) (hr' : Follow r') : t = t' ∧ r = r' := by
  have hh := hd_eq_of_append_eq t t' r r' h
  have rb (l : List Tok) : Follow (Tok.rb :: l) := follow_cons_closer _ _ rfl
  have semi (l : List Tok) : Follow (Tok.semi :: l) := follow_cons_closer _ _ rfl
  cases t with
  | prim n =>
    rcases ty_of_hd hh with rfl | ⟨args, rfl⟩ <;>
      simp only [render, List.cons_append, List.nil_append, List.cons.injEq, true_and] at h
    · exact ⟨rfl, h⟩
    · rw [h] at hr; cases hr
  | ref m u =>
    obtain ⟨m', u', rfl⟩ := ty_of_hd hh
    simp only [render, List.cons_append, List.append_assoc, List.cons.injEq, true_and] at h
    obtain ⟨rfl, e⟩ := inj_mut h
    exact (inj_render u u' r r' e hr hr').imp (congrArg _) id
  | ptr m u =>
    obtain ⟨m', u', rfl⟩ := ty_of_hd hh
    simp only [render, List.cons_append, List.cons.injEq, true_and] at h
    obtain ⟨rfl, rfl⟩ := inj_render u u' r r' h.2 hr hr'
    cases m <;> cases m'
    · exact ⟨rfl, rfl⟩
    · cases h.1
    · cases h.1
    · exact ⟨rfl, rfl⟩
  | tuple ts =>
    obtain ⟨ts', rfl⟩ := ty_of_hd hh
    simp only [render, List.cons_append, List.append_assoc, List.nil_append, List.cons.injEq, true_and] at h
    exact (inj_tuple ts ts' r r' h).imp (congrArg _) id
  | slice u =>
    rcases ty_of_hd hh with ⟨u', rfl⟩ | ⟨u', n', rfl⟩ <;>
      simp only [render, List.cons_append, List.append_assoc, List.nil_append, List.cons.injEq, true_and] at h
    · obtain ⟨rfl, e⟩ := inj_render u u' _ _ h (rb _) (rb _)
      exact ⟨rfl, (List.cons.inj e).2⟩
    · cases (inj_render u u' _ _ h (rb _) (semi _)).2  -- `]` is not `;`
  | array u n =>
    rcases ty_of_hd hh with ⟨u', rfl⟩ | ⟨u', n', rfl⟩ <;>
      simp only [render, List.cons_append, List.append_assoc, List.nil_append, List.cons.injEq, true_and] at h
    · cases (inj_render u u' _ _ h (semi _) (rb _)).2  -- `;` is not `]`
    · obtain ⟨rfl, e⟩ := inj_render u u' _ _ h (semi _) (semi _)
      cases e
      exact ⟨rfl, rfl⟩
  | app n args =>
    rcases ty_of_hd hh with rfl | ⟨args', rfl⟩ <;>
      simp only [render, List.cons_append, List.append_assoc, List.nil_append, List.cons.injEq, true_and] at h
    · rw [← h] at hr'; cases hr'
    · obtain ⟨rfl, e⟩ := inj_args args args' _ _ h (close_gt _) (close_gt _)
      exact ⟨rfl, (List.cons.inj e).2⟩
  | fn_ f =>
    obtain ⟨f', rfl⟩ := ty_of_hdFn hh
    rw [render, render] at h
    exact (inj_fn f f' r r' h hr hr').imp (congrArg _) id
  | dynfn ps rt =>
    obtain ⟨ps', rt', rfl⟩ := ty_of_hd hh
    simp only [render, List.cons_append, List.append_assoc, List.nil_append, List.cons.injEq, true_and] at h
    obtain ⟨rfl, e⟩ := inj_args ps ps' _ _ h (close_rp _) (close_rp _)
    rcases ret_split (List.cons.inj e).2 hr hr' with ⟨rfl, rfl, rfl⟩ | e'
    · exact ⟨rfl, rfl⟩
    · exact (inj_render rt rt' r r' e' hr hr').imp (congrArg _) id
-- `termination_by structural`: left alone, Lean falls back to well-founded recursion here, far slower to check.
-- (The model's own `render` is compiled that way and does not reduce by `rfl` / `decide`.)
termination_by structural t

theorem inj_args (ts ts' : TyList) (r r' : List Tok) (h : renderArgs ts ++ r = renderArgs ts' ++ r')
    (hc : Close r) (hc' : Close r') : ts = ts' ∧ r = r' := by
  cases ts with
  | nil =>
    rw [renderArgs_nil, List.nil_append] at h
    cases ts' with
    | nil => rw [renderArgs_nil] at h; exact ⟨rfl, h⟩
    | cons t' ts' => subst h; exact absurd (close_follow hc) (not_follow_args t' ts' r')
  | cons t ts =>
    cases ts' with
    | nil =>
      rw [renderArgs_nil, List.nil_append] at h
      subst h
      exact absurd (close_follow hc') (not_follow_args t ts r)
    | cons t' ts' =>
      rw [renderArgs_cons, renderArgs_cons, List.append_assoc, List.append_assoc] at h
      obtain ⟨rfl, e⟩ := inj_render t t' _ _ h (follow_argsTail ts hc) (follow_argsTail ts' hc')
      cases ts with
      | nil =>
        cases ts' with
        | nil => exact ⟨rfl, e⟩
        | cons a' as' => rw [show r = _ from e] at hc; cases hc
      | cons a as =>
        cases ts' with
        | nil => rw [show r' = _ from e.symm] at hc'; cases hc'
        | cons a' as' =>
          obtain ⟨e', rfl⟩ := inj_args (TyList.cons a as) (TyList.cons a' as') r r' (List.cons.inj e).2 hc hc'
          exact ⟨by rw [e'], rfl⟩
termination_by structural ts

theorem inj_tuple (ts ts' : TyList) (r r' : List Tok) (h : renderTuple ts ++ Tok.rp :: r = renderTuple ts' ++ Tok.rp :: r') :
    ts = ts' ∧ r = r' := by
  cases ts with
  | nil =>
    rw [renderTuple_nil, List.nil_append] at h
    cases ts' with
    | nil => rw [renderTuple_nil] at h; exact ⟨rfl, (List.cons.inj h).2⟩
    | cons t' ts' => exact (not_follow_tuple t' ts' _ (by rw [← h]; exact follow_cons_closer Tok.rp r rfl)).elim
  | cons t ts =>
    cases ts' with
    | nil =>
      rw [renderTuple_nil, List.nil_append] at h
      exact (not_follow_tuple t ts _ (by rw [h]; exact follow_cons_closer Tok.rp r' rfl)).elim
    | cons t' ts' =>
      rw [renderTuple_cons, renderTuple_cons, List.append_assoc, List.append_assoc] at h
      have comma (l : List Tok) : Follow (Tok.comma :: l) := follow_cons_closer _ _ rfl
      obtain ⟨rfl, e⟩ := inj_render t t' _ _ h (comma _) (comma _)
      obtain ⟨rfl, e'⟩ := inj_args ts ts' _ _ (List.cons.inj e).2 (close_rp _) (close_rp _)
      exact ⟨rfl, (List.cons.inj e').2⟩
termination_by structural ts

theorem inj_fn (f f' : FnTy) (r r' : List Tok) (h : renderFn f ++ r = renderFn f' ++ r')
    (hr : Follow r) (hr' : Follow r') : f = f' ∧ r = r' := by
  cases f with
  | mk u abi ps rt =>
    cases f' with
    | mk u' abi' ps' rt' =>
      simp only [renderFn_eq, List.append_assoc, List.cons_append] at h
      obtain ⟨rfl, rfl, e⟩ := inj_quals h
      obtain ⟨rfl, e'⟩ := inj_args ps ps' _ _ (List.cons.inj e).2 (close_rp _) (close_rp _)
      rcases ret_split (List.cons.inj e').2 hr hr' with ⟨rfl, rfl, rfl⟩ | e''
      · exact ⟨rfl, rfl⟩
      · exact (inj_render rt rt' r r' e'' hr hr').imp (congrArg _) id
termination_by structural f
end

theorem inj_ret (t t' : Ty) (r r' : List Tok) (h : renderRet t ++ r = renderRet t' ++ r')
    (hr : Follow r) (hr' : Follow r') : t = t' ∧ r = r' := by
  rcases ret_split h hr hr' with ⟨e, e', er⟩ | e
  · exact ⟨e.trans e'.symm, er⟩
  · exact inj_render t t' r r' e hr hr'

theorem render_injective {t t' : Ty} (h : render t = render t') : t = t' :=
  (inj_render t t' [] [] (by rw [h]) trivial trivial).1

theorem renderFn_injective {f f' : FnTy} (h : renderFn f = renderFn f') : f = f' :=
  (inj_fn f f' [] [] (by rw [h]) trivial trivial).1

theorem renderRet_eq_bool (r : Ty) : renderRet r = [Tok.arrow, Tok.id boolId] ↔ r = Ty.prim boolId := by
  rw [← renderRet_prim]
  exact ⟨fun h => (inj_ret r _ [] [] (by rw [h]) trivial trivial).1, congrArg renderRet⟩

theorem boolGateTopLevel_renderFn (f : FnTy) : boolGateTopLevel (renderFn f) = true ↔ f.ret = Ty.prim boolId := by
  unfold boolGateTopLevel
  rw [afterParams_renderFn]
  exact beq_iff_eq.trans (renderRet_eq_bool f.ret)

end Inj.Sig
