import Lean.Meta.Tactic.Simp.RegisterCommand

/-- The lemmas that take `run` through a translated `do` block one step at a time (`>>=`, `pure`, lifted pure
    code, the logged primitives) and keep the appended log in one piece: a bridge proof is
    `simp only [f, spec₁, spec₂, …, rt_step]` with the callees' specs in program order.  A closing `rfl` is then
    left, as a rule, with a numeral cast (`((8 : Nat) : Int)` against `8`) or `pure` against `Res.ok`; where it
    decides more, the line says what. -/
register_simp_attr rt_step
