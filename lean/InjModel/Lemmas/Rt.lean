/-
  Lemmas/Rt.lean — facts about the vocabulary of translated functions (Model/Rt.lean) that the
  bridge theorems of InjModel/Tie use: the width-indexed operations in the literal-modulus forms of
  Model/Bytes.lean and when they do not overflow, the page mask, the buffer and loop primitives
  (`copyInto`, `forM'`), how `run` steps through a translated `do` block (`seqRes`, the simp set
  `rt_step`), and the string primitives of the signature scanner.
-/
import InjModel.Model.Rt
import InjModel.Lemmas.Bytes
import InjModel.Model.Mem
import InjModel.Lemmas.RtStep
namespace Inj.Rt

theorem leBytes_append (m n x : Nat) : leBytes (m + n) x = leBytes m x ++ leBytes n (x / 256 ^ m) := by
  induction m generalizing x with
  | zero => simp [leBytes]
  | succ m ih =>
    rw [Nat.add_right_comm, leBytes, leBytes, ih, Nat.div_div_eq_div_mul, Nat.pow_succ, Nat.mul_comm 256, List.cons_append]

theorem leBytes_mod (n x : Nat) : leBytes n (x % 256 ^ n) = leBytes n x := by
  induction n generalizing x with
  | zero => rfl
  | succ n ih =>
    rw [leBytes, leBytes, Nat.pow_succ, Nat.mod_mul_left_div_self, Nat.mod_mod_of_dvd _ (Nat.dvd_mul_left ..), ih]

theorem leBytes4 (x : Nat) : leBytes 4 x = le32 x := by
  simp only [leBytes, le32, Nat.div_div_eq_div_mul]

theorem leBytes8 (x : Nat) : leBytes 8 x = le64 x := by
  rw [le64, ← leBytes4, ← leBytes4, show 4294967296 = 256 ^ 4 from rfl, leBytes_mod, leBytes_mod]
  exact leBytes_append 4 4 x

theorem wrapS64 (i : Int) : wrapS 64 i = wrapI64 i := by
  unfold wrapS wrapI64; simp

theorem castUS64 (n : Nat) (h : n < 18446744073709551616) : castUS 64 n = toI64 n := by
  rw [castUS, wrapS64, wrapI64_natCast n h]

/-- wrapping into the signed range does not change the bit pattern -/
theorem castSU_wrapS (bits : Nat) (x : Int) : castSU bits (wrapS bits x) = castSU bits x := by
  unfold castSU wrapS
  rw [ite_sub_emod, Int.emod_emod]

theorem castSU32_SS32 (x : Int) : castSU 32 (castSS 32 x) = ofInt32 x := castSU_wrapS 32 x

theorem chkS64 (mode : Mode) (r : Int) :
    chkS 64 mode r = if -9223372036854775808 ≤ r ∧ r < 9223372036854775808 then Res.ok r
      else if mode = Mode.debug then Res.panic "arith-overflow" else Res.ok (wrapI64 r) := by
  unfold chkS inS
  simp only [wrapS64, decide_eq_true_eq, Nat.reduceSub, Nat.reducePow, Int.cast_ofNat_Int]

/-- unsigned checked operations when the mathematical result is in range -/
theorem chkU_ok (bits : Nat) (mode : Mode) (r : Int) (h0 : 0 ≤ r) (h1 : r < (2 ^ bits : Int)) :
    chkU bits mode r = Res.ok r.toNat := by
  unfold chkU; rw [if_pos ⟨h0, h1⟩]

theorem uadd_ok (bits : Nat) (mode : Mode) (a b : Nat) (h : a + b < 2 ^ bits) :
    uadd bits mode a b = Res.ok (a + b) := by
  rw [uadd, ← Int.natCast_add, chkU_ok bits mode _ (Int.natCast_nonneg _) (by exact_mod_cast h)]
  rfl

theorem usub_ok (bits : Nat) (mode : Mode) (a b : Nat) (h : b ≤ a) (ha : a < 2 ^ bits) :
    usub bits mode a b = Res.ok (a - b) := by
  rw [usub, ← Int.ofNat_sub h,
    chkU_ok bits mode _ (Int.natCast_nonneg _) (by exact_mod_cast Nat.lt_of_le_of_lt (Nat.sub_le a b) ha)]
  rfl

theorem and_pagemask_bits (bits a : Nat) (hb : 12 ≤ bits) (h : a < 2 ^ bits) :
    a &&& (2 ^ bits - 1 - 4095) = a / 4096 * 4096 := by
  have h4 : 2 ^ 12 - 1 < 2 ^ bits := Nat.lt_of_lt_of_le (by decide) (Nat.pow_le_pow_right (by decide) hb)
  apply Nat.eq_of_testBit_eq
  intro i
  rw [show (4095 : Nat) = 2 ^ 12 - 1 from rfl, Nat.sub_sub, Nat.add_comm 1, Nat.testBit_and,
    Nat.testBit_two_pow_sub_succ h4, Nat.testBit_two_pow_sub_one, show (4096 : Nat) = 2 ^ 12 from rfl,
    Nat.testBit_mul_two_pow, Nat.testBit_div_two_pow]
  -- the mask keeps bits 12 to `bits - 1`, and `a` has none from `bits` on
  by_cases c : 12 ≤ i
  · rw [Nat.sub_add_cancel c]
    by_cases d : i < bits
    · simp [c, d]
    · simp [Nat.testBit_lt_two_pow (Nat.lt_of_lt_of_le h (Nat.pow_le_pow_right (by decide) (Nat.le_of_not_lt d)))]
  · simp [c, Nat.lt_of_not_le c]

/-- `x & !(4096 - 1)` on 64-bit values is rounding down to a page -/
theorem and_pagemask (a : Nat) (h : a < 18446744073709551616) :
    a &&& (18446744073709551615 - 4095) = a / 4096 * 4096 := and_pagemask_bits 64 a (by decide) h

/-- the same as the translated code spells it: `addr & !(page_size - 1)` at pointer width `bits` -/
theorem band_unot_page (bits a : Nat) (hb : 12 ≤ bits) (h : a < 2 ^ bits) : band a (unot bits 4095) = pageStart a := by
  have h4 : 4095 < 2 ^ bits := Nat.lt_of_lt_of_le (by decide) (Nat.pow_le_pow_right (by decide) hb)
  rw [band, unot, Nat.mod_eq_of_lt h4, and_pagemask_bits bits a hb h]
  rfl


theorem chkS64_wrap (mode : Mode) (r : Int) :
    chkS 64 mode r =
      if mode = Mode.debug ∧ ¬(-9223372036854775808 ≤ r ∧ r < 9223372036854775808) then Res.panic "arith-overflow"
      else Res.ok (wrapI64 r) := by
  rw [chkS64]
  by_cases h : -9223372036854775808 ≤ r ∧ r < 9223372036854775808
  · rw [if_pos h, if_neg (fun c => c.2 h), wrapI64_id r h.1 h.2]
  · cases mode <;> simp [h]

/-- `Res.bind_ok` with a proof term: the `rfl`-lemma itself `simp` applies as a definitional step, and the kernel
    then evaluates the checked arithmetic in `f v` on symbolic operands (see `seqRes`) -/
theorem ok_bind {α β : Type} (v : α) (f : α → Res β) : (Res.ok v >>= f) = f v := by rw [Res.bind_ok]

theorem copyInto_append {α : Type} (pre old post src : List α) {lo hi : Nat} (hlo : pre.length = lo)
    (hhi : lo + old.length = hi) (h : src.length = old.length) :
    copyInto (pre ++ (old ++ post)) lo hi src = Res.ok (pre ++ (src ++ post)) := by
  subst hlo hhi
  rw [copyInto, if_pos ⟨Nat.le_add_right .., by rw [List.length_append, List.length_append, ← Nat.add_assoc]; exact Nat.le_add_right ..,
    by rw [Nat.add_sub_cancel_left]; exact h⟩, List.take_left, List.drop_length_add_append, List.drop_left, List.append_assoc]

/-- The 12-byte patch buffers (arm64 `apply_branch_patch`, 32-bit ARM `replace_function_with_other_function`)
    start as zeros and receive three 4-byte words. -/
theorem copyInto_word0 {a : List Nat} (ha : a.length = 4) :
    copyInto (List.replicate 12 (0 : Nat)) 0 4 a = Res.ok (a ++ List.replicate 8 0) :=
  copyInto_append [] (List.replicate 4 0) (List.replicate 8 0) a rfl rfl ha

theorem copyInto_word1 {a b : List Nat} (ha : a.length = 4) (hb : b.length = 4) :
    copyInto (a ++ List.replicate 8 0) 4 8 b = Res.ok (a ++ (b ++ List.replicate 4 0)) :=
  copyInto_append a (List.replicate 4 0) (List.replicate 4 0) b ha rfl hb

theorem copyInto_word2 {a b c : List Nat} (ha : a.length = 4) (hb : b.length = 4) (hc : c.length = 4) :
    copyInto (a ++ (b ++ List.replicate 4 0)) 8 12 c = Res.ok (a ++ (b ++ c)) := by
  have h := copyInto_append (a ++ b) (List.replicate 4 0) [] c (lo := 8) (by rw [List.length_append, ha, hb]) rfl hc
  rwa [List.append_nil, List.append_nil, List.append_assoc, List.append_assoc] at h

theorem copyInto_all {α : Type} (l t : List α) (h : t.length = l.length) : copyInto l 0 l.length t = Res.ok t := by
  rw [copyInto, if_pos ⟨Nat.zero_le _, Nat.le_refl _, h⟩, List.take_zero, List.drop_length, List.nil_append, List.append_nil]

theorem forM'_append {α σ : Type} (xs ys : List α) (s : σ) (f : α → σ → Res σ) :
    forM' (xs ++ ys) s f = (forM' xs s f >>= fun s' => forM' ys s' f) := by
  induction xs generalizing s with
  | nil => rfl
  | cons x xs ih =>
    rw [List.cons_append, forM', forM']
    cases f x s with
    | ok v => exact ih v
    | panic w => rfl

/-- `or_eq_add` for `rw` on a `bor` -/
theorem bor_eq_add {n : Nat} (b i : Nat) (hn : 2 ^ i ∣ n) (h : b < 2 ^ i) : bor n b = n + b := or_eq_add i hn h

/-- a shift that loses no bit (`x` occupies `w` bits) -/
theorem ushl_ok (bits : Nat) (mode : Mode) (x k w : Nat) (hk : k < bits) (hx : x < 2 ^ w) (hkw : k + w ≤ bits) :
    ushl bits mode x k = Res.ok (x * 2 ^ k) := by
  rw [ushl, if_pos hk, Nat.mod_eq_of_lt]
  exact Nat.lt_of_lt_of_le (Nat.mul_lt_mul_of_pos_right hx (Nat.two_pow_pos k))
    (by rw [← Nat.pow_add, Nat.add_comm]; exact Nat.pow_le_pow_right (by decide) hkw)

/-- `wrapS 128` unfolds to the balanced remainder `Int.bmod · (2 ^ 128)` of the library -/
theorem wrapS128_id (x : Int) (h1 : -9223372036854775808 ≤ x) (h2 : x < 9223372036854775808) : wrapS 128 x = x :=
  Int.bmod_eq_of_le_mul_two (y := 2 ^ 128) (by omega) (by omega)

/-- What `>>=` of `M` does with the outcome of its first computation.  Two oddities, both for the kernel, which
    has to check what `simp only [.., rt_step]` builds.  `seqRes` is irreducible so that its lemmas are not
    `rfl`-lemmas: those `simp` applies as definitional steps without a proof, and the kernel, re-deriving the step,
    evaluates `run m os` to decide the `match`, i.e. runs the translated program on symbolic arguments until its
    stack is gone.  And `run_bind` has the continuation η-reduced, `fun v => run (f v)`: in
    `fun v os' => run (f v) os'` `simp` would rewrite under the binders, and the kernel would redo that work.
    (The `rfl`-equations of `pure`, lifted code and the logged primitives below unfold in one step: harmless.) -/
@[irreducible] def seqRes {α β : Type} (r : Res α × Os) (k : α → Os → Res β × Os) : Res β × Os :=
  match r with
  | (Res.ok v, os') => k v os'
  | (Res.panic w, os') => (Res.panic w, os')

theorem run_bind {α β : Type} (m : M α) (f : α → M β) (os : Os) :
    run (m >>= f) os = seqRes (run m os) (fun v => run (f v)) := by
  unfold seqRes; rfl
theorem seqRes_ok {α β : Type} (v : α) (os' : Os) (k : α → Os → Res β × Os) :
    seqRes (Res.ok v, os') k = k v os' := by
  unfold seqRes; rfl
theorem seqRes_panic {α β : Type} (w : String) (os' : Os) (k : α → Os → Res β × Os) :
    seqRes (Res.panic w, os') k = (Res.panic w, os') := by
  unfold seqRes; rfl

theorem run_pure {α : Type} (v : α) (os : Os) : run (pure v : M α) os = (Res.ok v, os) := rfl
theorem run_lift {α : Type} (r : Res α) (os : Os) : run (MonadLiftT.monadLift r : M α) os = (r, os) := rfl
theorem run_extU (name : String) (args : List Val) (os : Os) :
    run (extU name args) os = (Res.ok (), { os with log := os.log ++ [(name, args)] }) := rfl
theorem run_panicNow {α : Type} (msg : String) (os : Os) : run (panicNow msg : M α) os = (Res.panic msg, os) := rfl
theorem run_extI_cons (name : String) (args : List Val) (i : Int) (rest : List Val) (log : List (String × List Val)) :
    run (extI name args) { answers := Val.n i :: rest, log := log } =
      (Res.ok i, { answers := rest, log := log ++ [(name, args)] }) := rfl
theorem run_extN_cons (name : String) (args : List Val) (i : Int) (rest : List Val) (log : List (String × List Val)) :
    run (extN name args) { answers := Val.n i :: rest, log := log } =
      (Res.ok i.toNat, { answers := rest, log := log ++ [(name, args)] }) := rfl
theorem run_extB_cons (name : String) (args : List Val) (l : List Nat) (rest : List Val) (log : List (String × List Val)) :
    run (extB name args) { answers := Val.bs l :: rest, log := log } =
      (Res.ok l, { answers := rest, log := log ++ [(name, args)] }) := rfl
theorem run_extO_cons (name : String) (args : List Val) (i : Int) (rest : List Val) (log : List (String × List Val)) :
    run (extO name args) { answers := Val.n i :: rest, log := log } =
      (Res.ok (if i = 0 then none else some ()), { answers := rest, log := log ++ [(name, args)] }) := rfl

attribute [rt_step] run_bind seqRes_ok seqRes_panic run_pure run_lift run_extU run_panicNow run_extI_cons run_extN_cons
  run_extB_cons run_extO_cons List.append_assoc List.cons_append List.nil_append Int.ofNat_eq_natCast

theorem run_bind_unit (m : M Unit) (os : Os) : run (m >>= fun _ => pure ()) os = run m os := by
  rw [run_bind]
  rcases run m os with ⟨_ | _, _⟩
  · rw [seqRes_ok, run_pure]
  · rw [seqRes_panic]

theorem run_ite {α : Type} (c : Prop) [Decidable c] (a b : M α) (os : Os) :
    run (if c then a else b) os = if c then run a os else run b os := apply_ite (run · os) c a b

/-- the sequencing lemmas in conditional form, for stepping by `rw` with the sub-result as an argument -/
theorem run_bind_ok {α β : Type} (m : M α) (f : α → M β) (os os' : Os) (v : α) (h : run m os = (Res.ok v, os')) :
    run (m >>= f) os = run (f v) os' := by
  rw [run_bind, h, seqRes_ok]
theorem run_bind_panic {α β : Type} (m : M α) (f : α → M β) (os os' : Os) (w : String) (h : run m os = (Res.panic w, os')) :
    run (m >>= f) os = (Res.panic w, os') := by
  rw [run_bind, h, seqRes_panic]
theorem run_bind_lift_ok {α β : Type} (r : Res α) (f : α → M β) (os : Os) (v : α) (h : r = Res.ok v) :
    run ((MonadLiftT.monadLift r : M α) >>= f) os = run (f v) os := by
  rw [run_bind, run_lift, h, seqRes_ok]
theorem run_bind_lift_ok' {α β : Type} (v : α) (f : α → M β) (os : Os) :
    run ((MonadLiftT.monadLift (Res.ok v) : M α) >>= f) os = run (f v) os := run_bind_lift_ok _ f os v rfl
theorem run_bind_lift_panic {α β : Type} (r : Res α) (f : α → M β) (os : Os) (w : String) (h : r = Res.panic w) :
    run ((MonadLiftT.monadLift r : M α) >>= f) os = (Res.panic w, os) := by
  rw [run_bind, run_lift, h, seqRes_panic]

theorem utf8Len_pos (c : Char) : 1 ≤ utf8Len c := by
  unfold utf8Len
  repeat' split
  all_goals decide

theorem strLen_append (a b : List Char) : strLen (a ++ b) = strLen a + strLen b := by
  induction a with
  | nil => exact (Nat.zero_add _).symm
  | cons c cs ih => rw [List.cons_append, strLen, strLen, ih, Nat.add_assoc]

theorem strFrom_zero (s : List Char) : strFrom s 0 = Res.ok s := by cases s <;> rfl

theorem strFrom_cons (c : Char) (cs : List Char) (n : Nat) (h : utf8Len c ≤ n) :
    strFrom (c :: cs) n = strFrom cs (n - utf8Len c) := by
  cases n with
  | zero => exact absurd (Nat.le_trans (utf8Len_pos c) h) (Nat.not_succ_le_zero 0)
  | succ k => rw [strFrom, if_pos h]

theorem strFrom_append (pre r : List Char) : strFrom (pre ++ r) (strLen pre) = Res.ok r := by
  induction pre with
  | nil => exact strFrom_zero r
  | cons c cs ih =>
    rw [List.cons_append, strLen, strFrom_cons c _ _ (Nat.le_add_right _ _), Nat.add_sub_cancel_left, ih]

theorem strTrimEnd_split (y : List Char) : ∃ w, y = strTrimEnd y ++ w ∧ w.all isWs = true :=
  ⟨(y.reverse.takeWhile isWs).reverse,
    by rw [strTrimEnd, ← List.reverse_append, List.takeWhile_append_dropWhile, List.reverse_reverse],
    by rw [List.all_reverse, List.all_takeWhile]⟩

end Inj.Rt
