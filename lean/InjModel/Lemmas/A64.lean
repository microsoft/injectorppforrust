/-
  Lemmas/A64.lean — `decode` undoes the emitters, in three layers: the emitted word as nested fields
  (`rd + 32 * (imm + 65536 * (…))`, one lemma per bit source); `decode` on a *variable* word whose class bits
  are given (the earlier tests of `decode` fail: the only arithmetic on a whole word); the operands read back
  by cancelling each field's width.  Then what the decoded sequences do: the trampoline and the boolean stub
  executed (`insert16_chunk`, `execList_tramp`), an immediate sign-extended (`sext_ofInt`), `B` landing on its
  target (`b_lands`, `entryLinux_eq`), ADRP's page distance (`pageDiff_eq`, `sext21_ofInt64`, `adrp_add`).
-/
import InjModel.Model.A64
import InjModel.Lemmas.Bytes
namespace Inj.A64
open Inj.Generated.Consts

theorem bitsToNat_append (a b : List Bool) :
    bitsToNat (a ++ b) = bitsToNat a + 2 ^ a.length * bitsToNat b := by
  induction a with
  | nil => simp [bitsToNat]
  | cons x xs ih =>
    simp only [List.cons_append, bitsToNat, ih, List.length_cons, Nat.pow_succ]
    rw [Nat.mul_add, ← Nat.add_assoc, Nat.mul_comm (2 ^ xs.length) 2, Nat.mul_assoc]

theorem natToBits_length (n w : Nat) : (natToBits n w).length = w := by
  induction w generalizing n with
  | zero => rfl
  | succ w ih => simp [natToBits, ih]

theorem bitsToNat_natToBits (n w : Nat) : bitsToNat (natToBits n w) = n % 2 ^ w := by
  induction w generalizing n with
  | zero => simp [natToBits, bitsToNat, Nat.mod_one]
  | succ w ih =>
    simp only [natToBits, bitsToNat, ih]
    have h2 : n % 2 ^ (w + 1) = n % 2 + 2 * (n / 2 % 2 ^ w) := by
      rw [Nat.pow_succ, Nat.mul_comm, Nat.mod_mul]
    rw [h2]
    have : (if (n % 2 == 1) = true then 1 else 0) = n % 2 := by
      rcases Nat.mod_two_eq_zero_or_one n with h | h <;> simp [h]
    rw [this]

theorem emitWord_nil (f : Fields) : emitWord [] f = 0 := rfl

/-- each bit source (LSB first) contributes its value below the rest of the word shifted by its width -/
theorem emitWord_cons (s : BitSrc) (ss : List BitSrc) (f : Fields) :
    emitWord (s :: ss) f = bitsToNat (srcBits f s) + 2 ^ (srcBits f s).length * emitWord ss f :=
  bitsToNat_append _ _

theorem emitWord_lit (b : Bool) (ss : List BitSrc) (f : Fields) :
    emitWord (BitSrc.lit b :: ss) f = (if b then 1 else 0) + 2 * emitWord ss f := by
  rw [emitWord_cons]; simp [srcBits, bitsToNat]

theorem emitWord_sf (ss : List BitSrc) (f : Fields) :
    emitWord (BitSrc.field Fld.sf :: ss) f = (if f.sf then 1 else 0) + 2 * emitWord ss f := by
  rw [emitWord_cons]; simp [srcBits, bitsToNat]

theorem emitWord_reg (ss : List BitSrc) (f : Fields) :
    emitWord (BitSrc.field Fld.reg :: ss) f = f.reg % 32 + 32 * emitWord ss f := by
  rw [emitWord_cons]; simp [srcBits, bitsToNat_natToBits, natToBits_length]

theorem emitWord_imm (ss : List BitSrc) (f : Fields) :
    emitWord (BitSrc.field Fld.imm :: ss) f = f.imm % 65536 + 65536 * emitWord ss f := by
  rw [emitWord_cons]; simp [srcBits, bitsToNat_natToBits, natToBits_length]

theorem emitWord_hw (ss : List BitSrc) (f : Fields) :
    emitWord (BitSrc.field Fld.hw :: ss) f = f.hw % 4 + 4 * emitWord ss f := by
  rw [emitWord_cons]; simp [srcBits, bitsToNat_natToBits, natToBits_length]

theorem movz_val (imm : Nat) (sf : Bool) (hw rd : Nat) :
    movz imm sf hw rd =
      rd % 32 + 32 * (imm % 65536 + 65536 * (hw % 4 + 4 * (0xA5 + 256 * (if sf then 1 else 0)))) := by
  cases sf <;> simp only [movz, emitMovz, emitWord_reg, emitWord_imm, emitWord_hw, emitWord_lit, emitWord_sf,
    emitWord_nil, if_true, Bool.false_eq_true, if_false, Nat.reduceMul, Nat.reduceAdd]

theorem movk_val (imm : Nat) (sf : Bool) (hw rd : Nat) :
    movk imm sf hw rd =
      rd % 32 + 32 * (imm % 65536 + 65536 * (hw % 4 + 4 * (0xE5 + 256 * (if sf then 1 else 0)))) := by
  cases sf <;> simp only [movk, emitMovk, emitWord_reg, emitWord_imm, emitWord_hw, emitWord_lit, emitWord_sf,
    emitWord_nil, if_true, Bool.false_eq_true, if_false, Nat.reduceMul, Nat.reduceAdd]

theorem br_val (rn : Nat) : br rn = 32 * (rn % 32 + 32 * 0x3587C0) := by
  simp only [br, emitBr, emitWord_reg, emitWord_lit, emitWord_nil, if_true, Bool.false_eq_true, if_false,
    Nat.reduceMul, Nat.reduceAdd, Nat.zero_add, ← Nat.mul_assoc]

theorem ret_val (rn : Nat) : ret rn = 32 * (rn % 32 + 32 * 0x3597C0) := by
  simp only [ret, emitRet, emitWord_reg, emitWord_lit, emitWord_nil, if_true, Bool.false_eq_true, if_false,
    Nat.reduceMul, Nat.reduceAdd, Nat.zero_add, ← Nat.mul_assoc]

/-! `decode` by the bits that select a class.  What has to be shown is that the earlier tests fail: each test
    fixes the top byte `w / 2^24` of the word (`top_of_mov`, `top_of_br`), and what the class at hand knows of
    that byte (`f` of it) excludes the value.  Only `BR` and `RET` share a top byte. -/

theorem div_mul_of_div_eq {w a c : Nat} (b : Nat) (h : w / a = c) : w / (a * b) = c / b := by
  rw [← Nat.div_div_eq_div_mul, h]

theorem top_of_mov {w d : Nat} (h : w / 8388608 = d) : w / 16777216 = d / 2 := div_mul_of_div_eq 2 h

theorem top_of_br {w d : Nat} (h : w / 1024 = d) : w / 16777216 = d / 16384 := div_mul_of_div_eq 16384 h

section
variable {w c d : Nat} (f : Nat → Nat) (t : f (w / 16777216) = c)
include t

theorem not_nop (ne : f 0xD5 ≠ c := by decide) : ¬ w = 0xD503201F := fun e => ne (by subst e; exact t)

theorem not_mov (ne : f (d / 2) ≠ c := by decide) : ¬ w / 8388608 = d :=
  fun e => ne ((congrArg f (top_of_mov e)).symm.trans t)

theorem not_br (ne : f (d / 16384) ≠ c := by decide) : ¬ (w / 1024 = d ∧ w % 32 = 0) :=
  fun e => ne ((congrArg f (top_of_br e.1)).symm.trans t)

omit t
theorem decode_movz_of (h : w / 8388608 = 0x1A5) :
    decode w = Instr.movz (w % 32) (w / 32 % 65536) (w / 2097152 % 4) := by
  rw [decode, if_neg (not_nop id (top_of_mov h)), if_pos h]

theorem decode_movk_of (h : w / 8388608 = 0x1E5) :
    decode w = Instr.movk (w % 32) (w / 32 % 65536) (w / 2097152 % 4) := by
  have t := top_of_mov h
  rw [decode, if_neg (not_nop id t), if_neg (not_mov id t), if_pos h]

theorem decode_br_of (h : w / 1024 = 0x3587C0 ∧ w % 32 = 0) : decode w = Instr.br (w / 32 % 32) := by
  have t := top_of_br h.1
  -- `not_mov` twice: the MOVZ test, then the MOVK test (`rw` finds the `d` of each)
  rw [decode, if_neg (not_nop id t), if_neg (not_mov id t), if_neg (not_mov id t), if_pos h]

theorem decode_ret_of (h : w / 1024 = 0x3597C0 ∧ w % 32 = 0) : decode w = Instr.ret (w / 32 % 32) := by
  have t := top_of_br h.1
  rw [decode, if_neg (not_nop id t), if_neg (not_mov id t), if_neg (not_mov id t),
    if_neg fun e => absurd (h.1.symm.trans e.1) (by decide), if_pos h]

theorem decode_b_of (h : w / 67108864 = 5) : decode w = Instr.b (w % 67108864) := by
  have t : w / 16777216 / 4 = 5 := (Nat.div_div_eq_div_mul ..).trans h
  rw [decode, if_neg (not_nop (· / 4) t), if_neg (not_mov (· / 4) t), if_neg (not_mov (· / 4) t),
    if_neg (not_br (· / 4) t), if_neg (not_br (· / 4) t), if_pos h]

theorem decode_adrp_of (h : w / 2147483648 = 1 ∧ w / 16777216 % 32 = 16) :
    decode w = Instr.adrp (w % 32) (w / 536870912 % 4) (w / 32 % 524288) := by
  rw [decode, if_neg (not_nop (· % 32) h.2), if_neg (not_mov (· % 32) h.2), if_neg (not_mov (· % 32) h.2),
    if_neg (not_br (· % 32) h.2), if_neg (not_br (· % 32) h.2),
    if_neg fun e => absurd ((div_mul_of_div_eq 32 e : w / 2147483648 = _).symm.trans h.1) (by decide), if_pos h]

theorem decode_add_of (h : w / 8388608 = 0x122) :
    decode w = Instr.addImm (w % 32) (w / 32 % 32) (w / 1024 % 4096) (w / 4194304 % 2) := by
  have t := top_of_mov h
  rw [decode, if_neg (not_nop id t), if_neg (not_mov id t), if_neg (not_mov id t), if_neg (not_br id t),
    if_neg (not_br id t),
    if_neg fun e => absurd ((div_mul_of_div_eq 4 t : w / 67108864 = _).symm.trans e) (by decide),
    if_neg fun e => absurd ((congrArg (· % 32) t).symm.trans e.2) (by decide), if_pos h]
end

theorem lo_mod {a n : Nat} (h : a < n) (b : Nat) : (a + n * b) % n = a := by
  rw [Nat.add_mul_mod_self_left, Nat.mod_eq_of_lt h]

theorem lo_div {a n : Nat} (h : a < n) (b : Nat) : (a + n * b) / n = b := by
  rw [Nat.add_mul_div_left _ _ (Nat.zero_lt_of_lt h), Nat.div_eq_of_lt h, Nat.zero_add]

/-- reading the fields of a word written as nested fields, lowest first
    (for a word with fewer fields put `0` with width `1` in the unused places, as `decode_mov_wide` does) -/
theorem read_fields {a b c d na nb nc nd : Nat} (ha : a < na) (hb : b < nb) (hc : c < nc) (hd : d < nd) (r : Nat) {w : Nat}
    (h : w = a + na * (b + nb * (c + nc * (d + nd * r)))) :
    w % na = a ∧ w / na % nb = b ∧ w / (na * nb) % nc = c ∧ w / (na * nb * nc) % nd = d ∧ w / (na * nb * nc * nd) = r := by
  subst h
  simp only [← Nat.div_div_eq_div_mul, lo_div ha, lo_div hb, lo_div hc, lo_div hd, lo_mod ha, lo_mod hb, lo_mod hc, lo_mod hd,
    and_self]

/-- MOVZ and MOVK: `Rd, imm16, hw` below the class bits `op` -/
theorem decode_mov_wide {w op imm hw rd : Nat} {mk : Nat → Nat → Nat → Instr} (hi : imm < 65536) (hh : hw < 4) (hr : rd < 32)
    (e : w = rd % 32 + 32 * (imm % 65536 + 65536 * (hw % 4 + 4 * op)))
    (d : w / 8388608 = op → decode w = mk (w % 32) (w / 32 % 65536) (w / 2097152 % 4)) : decode w = mk rd imm hw := by
  rw [Nat.mod_eq_of_lt hr, Nat.mod_eq_of_lt hi, Nat.mod_eq_of_lt hh] at e
  obtain ⟨e0, e1, e2, -, e4⟩ := read_fields hr hi hh Nat.zero_lt_one op (e.trans (by rw [Nat.one_mul, Nat.zero_add]))
  rw [d e4, e0, e1, e2]

theorem decode_movz (imm hw rd : Nat) (hi : imm < 65536) (hh : hw < 4) (hr : rd < 32) :
    decode (movz imm true hw rd) = Instr.movz rd imm hw :=
  decode_mov_wide hi hh hr (movz_val imm true hw rd) decode_movz_of

theorem decode_movk (imm hw rd : Nat) (hi : imm < 65536) (hh : hw < 4) (hr : rd < 32) :
    decode (movk imm true hw rd) = Instr.movk rd imm hw :=
  decode_mov_wide hi hh hr (movk_val imm true hw rd) decode_movk_of

theorem decode_branch_reg {w op rn : Nat} {mk : Nat → Instr} (hr : rn < 32) (e : w = 32 * (rn % 32 + 32 * op))
    (d : w / 1024 = op ∧ w % 32 = 0 → decode w = mk (w / 32 % 32)) : decode w = mk rn := by
  rw [Nat.mod_eq_of_lt hr] at e
  obtain ⟨e0, e1, -, -, e4⟩ := read_fields (show 0 < 32 by decide) hr Nat.zero_lt_one Nat.zero_lt_one op
    (e.trans (by simp only [Nat.one_mul, Nat.zero_add]))
  rw [d ⟨e4, e0⟩, e1]

theorem decode_br (rn : Nat) (hr : rn < 32) : decode (br rn) = Instr.br rn :=
  decode_branch_reg hr (br_val rn) decode_br_of

theorem decode_ret (rn : Nat) (hr : rn < 32) : decode (ret rn) = Instr.ret rn :=
  decode_branch_reg hr (ret_val rn) decode_ret_of

theorem decode_b (y : Nat) (h : y < 67108864) : decode (335544320 + y) = Instr.b y := by
  rw [show 335544320 + y = y + 67108864 * 5 by omega, decode_b_of (lo_div h 5), lo_mod h]

theorem decode_nop : decode 3573751839 = Instr.nop := by decide

theorem decode_br_x16 : decode (3592355840 + 16 * 32) = Instr.br 16 := by decide

theorem decode_adrp (immlo immhi rd : Nat) (hl : immlo < 4) (hh : immhi < 524288) (hr : rd < 32) :
    decode (2415919104 + immlo * 536870912 + immhi * 32 + rd) = Instr.adrp rd immlo immhi := by
  obtain ⟨e0, e1, e2, e3, e4⟩ := read_fields hr hh (show 16 < 32 by decide) hl 1
    (show 2415919104 + immlo * 536870912 + immhi * 32 + rd = rd + 32 * (immhi + 524288 * (16 + 32 * (immlo + 4 * 1))) by omega)
  rw [decode_adrp_of ⟨e4, e2⟩, e0, e3, e1]

theorem decode_add (imm12 rn rd : Nat) (hi : imm12 < 4096) (hn : rn < 32) (hr : rd < 32) :
    decode (2432696320 + imm12 * 1024 + rn * 32 + rd) = Instr.addImm rd rn imm12 0 := by
  obtain ⟨e0, e1, e2, e3, e4⟩ := read_fields hr hn hi (show 0 < 2 by decide) 0x122
    (show 2432696320 + imm12 * 1024 + rn * 32 + rd = rd + 32 * (rn + 32 * (imm12 + 4096 * (0 + 2 * 0x122))) by omega)
  rw [decode_add_of e4, e0, e1, e2, e3]

/-- sequential execution of already decoded instructions; C13 and C15 are stated with it (the driver runs
    `A64.runSeq` of Model/A64, which fetches from a word list by pc; no theorem is about that) -/
def execList : List Instr → Cpu → Option Cpu
  | [], c => some c
  | i :: is, c => match exec i c with
    | none => none
    | some c' => execList is c'

theorem chunk_lt (a s : Nat) : chunk a s < 65536 := Nat.mod_lt _ (by decide)

/-- the trampoline words decode to `movz x9,#a0; movk x9,#a1,lsl 16; movk …,lsl 32; movk …,lsl 48; br x9` -/
theorem tramp_decodes (fake : Nat) :
    (tramp fake).map decode =
      [Instr.movz 9 (chunk fake 0) 0, Instr.movk 9 (chunk fake 16) 1, Instr.movk 9 (chunk fake 32) 2,
       Instr.movk 9 (chunk fake 48) 3, Instr.br 9] := by
  unfold tramp
  simp only [a64TrampSeq, List.map, trampWord, a64ScratchReg]
  rw [decode_movz _ _ _ (chunk_lt _ _) (by decide) (by decide),
      decode_movk _ _ _ (chunk_lt _ _) (by decide) (by decide),
      decode_movk _ _ _ (chunk_lt _ _) (by decide) (by decide),
      decode_movk _ _ _ (chunk_lt _ _) (by decide) (by decide),
      decode_br _ (by decide)]

/-- MOVK on a register that is still zero from bit `16 * hw` up just adds the shifted immediate -/
theorem insert16_low {old hw : Nat} (h : old < 2 ^ (16 * hw)) (imm : Nat) :
    insert16 old imm hw = old + imm * 2 ^ (16 * hw) := by
  unfold insert16
  simp only
  rw [Nat.mod_eq_of_lt h, Nat.div_eq_of_lt (Nat.lt_of_lt_of_le h (Nat.le_mul_of_pos_right _ (by decide))),
    Nat.zero_mul, Nat.add_zero]

/-- so MOVK with chunk `hw` of `fake` extends the low `16 * hw` bits of `fake` to its low `16 * (hw + 1)` bits -/
theorem insert16_chunk (fake hw : Nat) :
    insert16 (fake % 2 ^ (16 * hw)) (chunk fake (16 * hw)) hw = fake % 2 ^ (16 * (hw + 1)) := by
  rw [insert16_low (Nat.mod_lt _ (Nat.two_pow_pos _)), chunk, Nat.mul_succ, Nat.pow_add, Nat.mod_mul,
    Nat.mul_comm (2 ^ (16 * hw))]

theorem chunks_rebuild (fake : Nat) (h : fake < 18446744073709551616) :
    insert16 (insert16 (insert16 (chunk fake 0 * 2 ^ (16 * 0)) (chunk fake 16) 1) (chunk fake 32) 2) (chunk fake 48) 3 = fake := by
  have h0 : chunk fake 0 * 2 ^ (16 * 0) = fake % 2 ^ (16 * 1) := by simp [chunk]
  rw [h0, insert16_chunk fake 1, insert16_chunk fake 2, insert16_chunk fake 3]
  exact Nat.mod_eq_of_lt h

theorem setX_same (f : Nat → Nat) (r v : Nat) : setX f r v r = v := by simp [setX]
theorem setX_setX (f : Nat → Nat) (r a b : Nat) : setX (setX f r a) r b = setX f r b := by
  funext i; unfold setX; split <;> rfl
theorem setX_other (f : Nat → Nat) (r v i : Nat) (h : i ≠ r) : setX f r v i = f i := by simp [setX, h]

/-- `a0 * 2 ^ (16 * 0)` is `exec`'s MOVZ with `hw = 0`, left unreduced so that `chunks_rebuild` applies -/
theorem execList_tramp (a0 a1 a2 a3 : Nat) (c : Cpu) :
    execList [Instr.movz 9 a0 0, Instr.movk 9 a1 1, Instr.movk 9 a2 2, Instr.movk 9 a3 3, Instr.br 9] c =
      some { pc := insert16 (insert16 (insert16 (a0 * 2 ^ (16 * 0)) a1 1) a2 2) a3 3,
             x := setX c.x 9 (insert16 (insert16 (insert16 (a0 * 2 ^ (16 * 0)) a1 1) a2 2) a3 3) } := by
  simp only [execList, exec]
  rw [setX_same, setX_setX, setX_same, setX_setX, setX_same, setX_setX, setX_same, setX_setX]

/-- the boolean stub decodes to `movz x0,#v; ret x30` -/
theorem boolStub_decodes (v : Bool) :
    (boolStub v).map decode = [Instr.movz 0 (if v then 1 else 0) 0, Instr.ret 30] := by
  unfold boolStub
  simp only [List.map, a64BoolValueBit, a64BoolSf, a64BoolHw, a64BoolReg, a64RetReg]
  rw [decode_movz _ _ _ (by cases v <;> decide) (by decide) (by decide), decode_ret _ (by decide)]

/-- `entryLinux` with the extracted constants substituted by the values the ISA expects -/
def entryLinuxLit (func jit : Nat) : Res (List Nat) :=
  let off : Int := Int.tdiv (toI64 jit - toI64 func) 4
  if -33554432 ≤ off ∧ off ≤ 33554431 then
    Res.ok [335544320 ||| (ofInt32 off &&& 67108863), 3573751839, 3573751839]
  else Res.panic "JIT memory is out of branch range"

theorem entryLinux_eq_lit : entryLinux = entryLinuxLit := rfl

theorem b_word (y : Nat) : 335544320 ||| (y &&& 67108863) = 335544320 + y % 67108864 :=
  or_and_mask _ y 26 (by decide)

theorem wrap64_natCast (n : Nat) (h : n < 18446744073709551616) : wrap64 (n : Int) = n := by
  rw [wrap64, Int.emod_eq_of_lt (Int.natCast_nonneg n) (b := 18446744073709551616) (Int.ofNat_lt.2 h), Int.toNat_natCast]

/-- Sign-extending the low `b + 1` bits of the two's-complement pattern (of any width `K > b`) of an integer
    that fits `b + 1` bits gives it back: what an encoder puts into an immediate field, the CPU reads out. -/
theorem sext_ofInt (b K : Nat) (hK : b + 1 ≤ K) (i : Int)
    (h1 : -((2 ^ b : Nat) : Int) ≤ i) (h2 : i < ((2 ^ b : Nat) : Int)) :
    sext (b + 1) ((i % ((2 ^ K : Nat) : Int)).toNat % 2 ^ (b + 1)) = i := by
  generalize hx : (i % ((2 ^ K : Nat) : Int)).toNat % 2 ^ (b + 1) = x
  replace hx : (x : Int) = i % ((2 ^ (b + 1) : Nat) : Int) := by
    rw [← hx, Int.natCast_emod, Int.toNat_of_nonneg (Int.emod_nonneg _ (Int.natCast_ne_zero.2 (Nat.ne_of_gt (Nat.two_pow_pos K)))),
      Int.emod_emod_of_dvd _ (Int.natCast_dvd_natCast.2 (Nat.pow_dvd_pow 2 hK))]
  rw [sext, Nat.add_sub_cancel]
  rw [Nat.pow_succ] at hx ⊢
  generalize 2 ^ b = m at *
  -- the residue of `i` modulo `2 * m` is `i` itself, or `i + 2 * m` when `i` is negative
  by_cases h0 : 0 ≤ i
  · rw [Int.emod_eq_of_lt h0 (by omega)] at hx
    rw [if_pos (by omega), hx]
  · rw [← Int.add_emod_right, Int.emod_eq_of_lt (by omega) (by omega)] at hx
    rw [if_neg (by omega), hx, Int.add_sub_cancel]

theorem sext26_ofInt32 (i : Int) (h1 : -33554432 ≤ i) (h2 : i < 33554432) :
    sext 26 (ofInt32 i % 67108864) = i := sext_ofInt 25 32 (by decide) i h1 h2

/-- `B` assembled for a word-aligned displacement within ±128 MiB lands exactly on the target -/
theorem b_lands (pc target : Nat) (ht : target < 18446744073709551616)
    (al : ((target : Int) - pc) % 4 = 0)
    (hr : -134217728 ≤ (target : Int) - pc ∧ (target : Int) - pc < 134217728) :
    wrap64 ((pc : Int) + sext 26 (ofInt32 (((target : Int) - pc) / 4) % 67108864) * 4) = target := by
  rw [sext26_ofInt32 _ (Int.le_ediv_of_mul_le (c := 4) (by decide) hr.1) (Int.ediv_lt_of_lt_mul (c := 4) (by decide) hr.2),
    Int.ediv_mul_cancel_of_emod_eq_zero al, Int.add_comm, Int.sub_add_cancel, wrap64_natCast _ ht]

/-- Linux, word-aligned user-space addresses: the range test is on the byte displacement, and the word is
    the same `B` as macOS emits in its direct range -/
theorem entryLinux_eq (func jit : Nat) (hf : func < 9223372036854775808) (hj : jit < 9223372036854775808)
    (al : ((jit : Int) - func) % 4 = 0) :
    entryLinux func jit =
      if -134217728 ≤ (jit : Int) - func ∧ (jit : Int) - func < 134217728 then
        Res.ok [335544320 + ofInt32 (((jit : Int) - func) / 4) % 67108864, 3573751839, 3573751839]
      else Res.panic "JIT memory is out of branch range" := by
  rw [entryLinux_eq_lit, entryLinuxLit, toI64_of_lt _ hj, toI64_of_lt _ hf,
    Int.tdiv_eq_ediv_of_dvd (Int.dvd_of_emod_eq_zero al), b_word]
  generalize (jit : Int) - func = d
  have lo : -33554432 ≤ d / 4 ↔ -134217728 ≤ d := Int.le_ediv_iff_mul_le (by decide)
  have hi : d / 4 ≤ 33554431 ↔ d < 134217728 := Int.lt_add_one_iff.symm.trans (Int.ediv_lt_iff_lt_mul (by decide))
  exact ite_cond_congr (propext (and_congr lo hi))

/-- `entryMacos`'s `pageDiff` (wrapping i64 difference of the page bases, over the page size) is the page
    distance that ADRP encodes -/
theorem pageDiff_eq (pc target : Nat) (hp : pc < 9223372036854775808) (ht : target < 9223372036854775808) :
    wrapI64 (toI64 (target / 4096 * 4096) - toI64 (pc / 4096 * 4096)) / 4096 =
      ((target / 4096 : Nat) : Int) - ((pc / 4096 : Nat) : Int) := by
  have ht' := Nat.lt_of_le_of_lt (Nat.div_mul_le_self target 4096) ht
  have hp' := Nat.lt_of_le_of_lt (Nat.div_mul_le_self pc 4096) hp
  rw [toI64_of_lt _ ht', toI64_of_lt _ hp', wrapI64_id _ (natCast_sub_bounds ht' hp').1 (natCast_sub_bounds ht' hp').2, Int.natCast_mul,
    Int.natCast_mul, ← Int.sub_mul, Int.cast_ofNat_Int, Int.mul_ediv_cancel _ (by decide)]

/-- ADRP's immediate, split into immlo / immhi by the encoder and reassembled by the CPU, is the page distance -/
theorem sext21_ofInt64 (d : Int) (h1 : -1048576 ≤ d) (h2 : d < 1048576) :
    sext 21 (ofInt64 d % 2097152 / 4 % 524288 * 4 + ofInt64 d % 2097152 % 4) = d := by
  have h : ofInt64 d % 2097152 / 4 < 524288 := Nat.div_lt_of_lt_mul (Nat.mod_lt _ (by decide))
  rw [Nat.mod_eq_of_lt h, Nat.div_add_mod']
  exact sext_ofInt 20 64 (by decide) d h1 h2

/-- ADRP's result plus ADD's `lo12` is the target; `* 1` is the scale of `exec`'s unshifted ADD -/
theorem adrp_add (pc target : Nat) (ht : target < 18446744073709551616) :
    (wrap64 (((pc / 4096 * 4096 : Nat) : Int) + (((target / 4096 : Nat) : Int) - ((pc / 4096 : Nat) : Int)) * 4096) +
      target % 4096 * 1) % 18446744073709551616 = target := by
  rw [Int.sub_mul, Int.natCast_mul, Int.cast_ofNat_Int, Int.add_comm, Int.sub_add_cancel, ← Int.cast_ofNat_Int,
    ← Int.natCast_mul, wrap64_natCast _ (Nat.lt_of_le_of_lt (Nat.div_mul_le_self target 4096) ht), Nat.mul_one,
    Nat.div_add_mod', Nat.mod_eq_of_lt ht]

end Inj.A64
