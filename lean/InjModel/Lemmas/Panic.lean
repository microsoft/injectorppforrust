/-
  Lemmas/Panic.lean — scope exit in closed form.  The field glue acts at the first occurrence of each kind
  of field only (`exitSteps_eq`), and the `Drop::drop` body is the glue run on a prefix of the body
  (`bodySteps_prefix`); the theorems about `scopeExit2` are read off these two.
-/
import InjModel.Model.Panic
import InjModel.Lemmas.Machine
namespace Inj.Panic
open Inj.Machine Inj.Generated.Layout

theorem runBody_installs (mode : Mode) (st : LifeState) (ops : List Op) :
    installs mode st.ms (reqsOf mode st ops) = some (runBody mode st ops).ms := by
  induction ops generalizing st with
  | nil => rfl
  | cons op ops ih =>
    simp only [reqsOf, runBody]
    split
    · rfl
    · cases op with
      | install r =>
        simp only
        cases hi : installX86 mode st.ms r.func r.payload r.jit with
        | none => rfl
        | some ms' => exact installs_cons.mpr ⟨ms', hi, ih { st with ms := ms' }⟩
      | installCounted r n =>
        simp only
        cases hi : installX86 mode st.ms r.func r.payload r.jit with
        | none => rfl
        | some ms' => exact installs_cons.mpr ⟨ms', hi, ih { st with ms := ms', verifs := st.verifs ++ [(n, 0)] }⟩
      | countedCall idx =>
        simp only
        split
        · rfl
        · exact ih { st with verifs := (bump st.verifs idx).1 }
      | plainCall => exact ih _
      | refused _ | rejectedCall | userPanic => rfl

def anyMismatch (vs : List Verif) : Bool := vs.any (fun v => decide (v.2 ≠ v.1))

@[simp] theorem anyMismatch_nil : anyMismatch [] = false := rfl

theorem anyMismatch_cons (v : Verif) (vs : List Verif) :
    anyMismatch (v :: vs) = (decide (v.2 ≠ v.1) || anyMismatch vs) := rfl

theorem dropVerifs_eq (e : ExitState) (vs : List Verif) (h : e.abort = false) :
    dropVerifs true e vs =
      { e with panicking := e.panicking || anyMismatch vs,
               newPanics := e.newPanics + (if !e.panicking && anyMismatch vs then 1 else 0) } := by
  induction vs generalizing e with
  | nil => simp [dropVerifs]
  | cons v vs ih =>
    obtain ⟨n, k⟩ := v
    simp only [dropVerifs, anyMismatch_cons]
    rw [if_neg (ne_true_of_eq_false h)]
    by_cases hm : k ≠ n
    · rw [if_pos hm]
      cases hp : e.panicking
      -- `by exact h` is elaborated after the rewrite has found the state `ih` speaks of; a plain `h` would fix it to `e`
      · rw [if_neg (by simp), ih _ (by exact h)]; simp [hm]
      · rw [if_pos rfl, if_pos trivial, ih _ h]; simp [hp]
    · rw [if_neg hm, ih _ h]; simp [hm]

/-- once the guards are gone a second restore, in whatever order, finds nothing to do -/
theorem restoreAll_twice (o1 o2 : DropOrder) (ms : MState) :
    restoreAll o2 (restoreAll o1 ms) = restoreAll o1 ms := by
  unfold restoreAll
  cases o1 <;> cases o2 <;> simp [dropGuards]

theorem restoreAll_eq (ord : DropOrder) (ms : MState) :
    restoreAll ord ms = { dropInjector ord ms with log := (dropInjector ord ms).log.tail } := by
  cases ord <;> rfl

/-- **The field glue in closed form** (verifiers that test `panicking()`): every kind of field acts at its first
    occurrence only, so the result depends on which kinds occur, not on their order or number. -/
theorem exitSteps_eq (ord : DropOrder) (e : ExitState) (fs : List Field) (h : e.abort = false) :
    exitSteps ord true e fs =
      { ms := if fs.contains Field.guards then restoreAll ord e.ms else e.ms,
        panicking := e.panicking || (fs.contains Field.verifiers && anyMismatch e.verifs),
        newPanics := e.newPanics +
          (if !e.panicking && (fs.contains Field.verifiers && anyMismatch e.verifs) then 1 else 0),
        abort := false,
        lockHeld := e.lockHeld && !fs.contains Field.lock,
        verifs := if fs.contains Field.verifiers then [] else e.verifs } := by
  induction fs generalizing e with
  | nil =>
    obtain ⟨ms, p, n, a, l, vs⟩ := e
    cases h
    simp only [exitSteps, List.contains_nil, Bool.false_and, Bool.or_false, Bool.and_false, Bool.false_eq_true, if_false,
      Nat.add_zero, Bool.not_false, Bool.and_true]
  | cons f fs ih =>
    simp only [exitSteps]
    rw [if_neg (ne_true_of_eq_false h)]
    -- `(f :: fs).contains g` with `f` and `g` known evaluates, so once the repeated action is absorbed `rfl` is left
    cases f with
    | guards =>
      simp only
      rw [ih _ (by exact h), restoreAll_twice, ite_self]
      rfl
    | verifiers =>
      simp only
      rw [dropVerifs_eq _ _ h, ih _ (by exact h)]
      simp only [anyMismatch_nil, Bool.and_false, Bool.or_false, Bool.false_eq_true, if_false, Nat.add_zero, ite_self]
      rfl
    | lock =>
      simp only
      rw [ih _ (by exact h), show (Field.lock :: fs).contains Field.lock = true from rfl, Bool.not_true, Bool.and_false]
      rfl
    | other => exact ih e h
    | unknown => exact ih e h

/-- a field other than `verifiers` is handled alike by the `Drop::drop` body and by the field glue: both go on
    from the same state `e'` (or stop, if already aborted) -/
theorem bodySteps_step (ord : DropOrder) (cp : Bool) (e : ExitState) {f : Field} (hv : f ≠ Field.verifiers) :
    ∃ e', (∀ fs, bodySteps ord cp e (f :: fs) = if e.abort then e else bodySteps ord cp e' fs) ∧
      ∀ fs, exitSteps ord cp e (f :: fs) = if e.abort then e else exitSteps ord cp e' fs := by
  cases f with
  | verifiers => exact absurd rfl hv
  | _ => exact ⟨_, fun _ => rfl, fun _ => rfl⟩

/-- **The `Drop::drop` body is the field glue run on a prefix of the body**: all of it, unless a verifier
    raises a panic, which ends the body there; so the prefix has a `verifiers` step if the body has. -/
theorem bodySteps_prefix (ord : DropOrder) (cp : Bool) (e : ExitState) (fs : List Field) :
    ∃ pre post, fs = pre ++ post ∧ pre.contains Field.verifiers = fs.contains Field.verifiers ∧
      bodySteps ord cp e fs = exitSteps ord cp e pre := by
  induction fs generalizing e with
  | nil => exact ⟨[], [], rfl, rfl, rfl⟩
  | cons f fs ih =>
    by_cases hv : f = Field.verifiers
    · subst hv
      by_cases hr : (dropVerifs cp e e.verifs).newPanics > e.newPanics
      · -- the body ends here
        refine ⟨[Field.verifiers], fs, rfl, rfl, ?_⟩
        simp only [bodySteps, exitSteps, if_pos hr]
      · obtain ⟨pre, post, h1, h2, h3⟩ := ih { dropVerifs cp e e.verifs with verifs := [] }
        refine ⟨_ :: pre, post, by rw [h1]; rfl, rfl, ?_⟩
        simp only [bodySteps, exitSteps, if_neg hr, h3]
    · obtain ⟨e', hb, he⟩ := bodySteps_step ord cp e hv
      obtain ⟨pre, post, h1, h2, h3⟩ := ih e'
      exact ⟨f :: pre, post, by rw [h1]; rfl, by rw [List.contains_cons, List.contains_cons, h2], by rw [hb, he, h3]⟩

/-- two releases in a row raise one panic at most (`p`: already unwinding; `x`, `y`: the first, the second
    would raise): once raised, the state is unwinding, and nothing is raised while unwinding -/
theorem one_panic (p x y : Bool) :
    (if p then 1 else 0) + ((if !p && x then 1 else 0) + (if !(p || x) && y then 1 else 0)) ≤ 1 := by
  revert p x y; decide

/-- **Two-phase release** when the `Drop::drop` body starts with the restore loop: whatever
    follows in the body and whatever the field order, every exit (normal, unwinding, or with a
    verification panic raised on the way) restores in the body's order, never aborts, raises at
    most one panic in total and lets the lock go iff the fields contain it. -/
theorem scopeExit2_spec (ord : DropOrder) (rest fields : List Field) (st : LifeState)
    (hl : rest.contains Field.lock = false) :
    let e := scopeExit2 ord true (Field.guards :: rest) fields st
    e.abort = false ∧ e.ms = restoreAll ord st.ms ∧
    e.lockHeld = !(fields.contains Field.lock) ∧
    (if st.panicked then 1 else 0) + e.newPanics ≤ 1 := by
  intro e
  -- by evaluation of the body's first step on the initial state: `abort` is `false` there, `guards` restores
  have he : e = exitSteps DropOrder.oldestFirst true (bodySteps ord true
      ⟨restoreAll ord st.ms, st.panicked, 0, false, true, st.verifs⟩ rest) fields := rfl
  obtain ⟨pre, post, hpre, _, hb⟩ :=
    bodySteps_prefix ord true ⟨restoreAll ord st.ms, st.panicked, 0, false, true, st.verifs⟩ rest
  rw [hpre, List.contains_append, Bool.or_eq_false_iff] at hl
  rw [he, hb, exitSteps_eq _ _ pre rfl, exitSteps_eq _ _ fields rfl]
  refine ⟨rfl, ?_, ?_, ?_⟩
  · simp only [restoreAll_twice, ite_self]
  · -- `lockHeld` starts as `true`, and each `exitSteps_eq` puts one factor to it
    show (true && !pre.contains Field.lock && !fields.contains Field.lock) = _
    rw [hl.1]; rfl
  · simp only [Nat.zero_add]
    exact one_panic st.panicked _ _

/-- `scopeExit2_spec` for a test `cp` and a `body` that are constants extracted from the source: what is known
    of them are equations (`C02_source_exit`, `C05_source`), not their shape -/
theorem scopeExit2_guards_first {cp : Bool} {body : List Field} (ord : DropOrder) (fields : List Field)
    (st : LifeState) (hcp : cp = true) (hb : body = Field.guards :: body.tail)
    (hl : body.tail.contains Field.lock = false) :
    let e := scopeExit2 ord cp body fields st
    e.abort = false ∧ e.ms = restoreAll ord st.ms ∧
    e.lockHeld = !(fields.contains Field.lock) ∧
    (if st.panicked then 1 else 0) + e.newPanics ≤ 1 := by
  rw [hcp, hb]
  exact scopeExit2_spec ord body.tail fields st hl

/-- **Verification at a normal scope exit, two-phase release**: wherever the verifiers are let
    go — in the `Drop::drop` body or by the field glue — the release raises exactly one panic if
    some expectation is unmet and none otherwise, provided they are let go somewhere. -/
theorem scopeExit2_newPanics (ord : DropOrder) (body fields : List Field) (st : LifeState)
    (hp : st.panicked = false) (hv : (body ++ fields).contains Field.verifiers = true) :
    (scopeExit2 ord true body fields st).newPanics = if anyMismatch st.verifs then 1 else 0 := by
  obtain ⟨pre, post, _, hpv, hb⟩ :=
    bodySteps_prefix ord true ⟨st.ms, st.panicked, 0, false, true, st.verifs⟩ body
  rw [List.contains_append, ← hpv] at hv
  rw [scopeExit2, hb, exitSteps_eq _ _ pre rfl, exitSteps_eq _ _ fields rfl, hp]
  -- the first phase that lets the verifiers go reports, and leaves none pending for the second
  cases hpre : pre.contains Field.verifiers
  · rw [hpre, Bool.false_or] at hv
    rw [hv]; simp
  · simp

end Inj.Panic
