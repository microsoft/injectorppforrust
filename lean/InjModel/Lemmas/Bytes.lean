import InjModel.Model.Bytes
namespace Inj

theorem de32_le32 (n : Nat) (h : n < 4294967296) :
    de32 (n % 256) (n / 256 % 256) (n / 65536 % 256) (n / 16777216 % 256) = n := by
  have horner (b0 b1 b2 b3 : Nat) : de32 b0 b1 b2 b3 = b0 + 256 * (b1 + 256 * (b2 + 256 * b3)) := by
    simp only [de32, Nat.mul_add, ← Nat.mul_assoc, Nat.add_assoc]
  -- from the top byte down, `x % 256 + 256 * (x / 256) = x`
  rw [horner, Nat.mod_eq_of_lt (Nat.div_lt_of_lt_mul h : n / 16777216 < 256),
    ← (Nat.div_div_eq_div_mul n 65536 256 : n / 65536 / 256 = n / 16777216), Nat.mod_add_div,
    ← (Nat.div_div_eq_div_mul n 256 256 : n / 256 / 256 = n / 65536), Nat.mod_add_div, Nat.mod_add_div]

theorem de64_le64 (n : Nat) (h : n < 18446744073709551616) :
    de64 (n % 4294967296 % 256) (n % 4294967296 / 256 % 256) (n % 4294967296 / 65536 % 256)
         (n % 4294967296 / 16777216 % 256)
         (n / 4294967296 % 4294967296 % 256) (n / 4294967296 % 4294967296 / 256 % 256)
         (n / 4294967296 % 4294967296 / 65536 % 256) (n / 4294967296 % 4294967296 / 16777216 % 256) = n := by
  rw [de64, de32_le32 _ (Nat.mod_lt _ (by decide)), de32_le32 _ (Nat.mod_lt _ (by decide)),
    Nat.mod_eq_of_lt (Nat.div_lt_of_lt_mul h : n / 4294967296 < 4294967296), Nat.mod_add_div]

theorem le32_length (n : Nat) : (le32 n).length = 4 := rfl
theorem le64_length (n : Nat) : (le64 n).length = 8 := rfl

/-! `toI64` and `wrapI64` change a value only by a multiple of 2^64 (`ite_sub_emod`, the `_emod` lemmas), and
    `toI64` lands in the i64 range (`toI64_bounds`); the rest says when they are the identity, and that on a
    `u64` they agree. -/

theorem toI64_of_lt (n : Nat) (h : n < 9223372036854775808) : toI64 n = (n : Int) := by
  unfold toI64; rw [if_pos h]

theorem toI64_bounds (n : Nat) (h : n < 18446744073709551616) :
    -9223372036854775808 ≤ toI64 n ∧ toI64 n < 9223372036854775808 := by
  unfold toI64; split <;> omega

theorem ite_sub_emod (c : Prop) [Decidable c] (r m : Int) : (if c then r else r - m) % m = r % m := by
  split
  · rfl
  · exact Int.sub_emod_right r m

theorem toI64_emod (n : Nat) : toI64 n % 18446744073709551616 = (n : Int) % 18446744073709551616 :=
  ite_sub_emod ..

theorem wrapI64_emod (i : Int) : wrapI64 i % 18446744073709551616 = i % 18446744073709551616 :=
  (ite_sub_emod ..).trans (Int.emod_emod ..)

theorem wrapI64_id (x : Int) (h1 : -9223372036854775808 ≤ x) (h2 : x < 9223372036854775808) : wrapI64 x = x := by
  unfold wrapI64; simp only; split <;> omega

/-- `u64 as i64` is the wrap of the value -/
theorem wrapI64_natCast (n : Nat) (h : n < 18446744073709551616) : wrapI64 (n : Int) = toI64 n := by
  have hn : (n : Int) % 18446744073709551616 = n := Int.emod_eq_of_lt (Int.natCast_nonneg n) (Int.ofNat_lt.2 h)
  simp only [wrapI64, toI64, hn]
  exact ite_congr (propext Int.ofNat_lt) (fun _ => rfl) (fun _ => rfl)

theorem ofInt32_lt (i : Int) : ofInt32 i < 4294967296 := by
  unfold ofInt32; omega

theorem sext32_ofInt32 (i : Int) (h1 : -2147483648 ≤ i) (h2 : i ≤ 2147483647) :
    sext32 (ofInt32 i) = i := by
  unfold sext32 ofInt32; split <;> omega

/-- OR-ing a value below `2^i` into a multiple of `2^i` adds it (fields of an instruction word do not overlap) -/
theorem or_eq_add {n b : Nat} (i : Nat) (hn : 2 ^ i ∣ n) (h : b < 2 ^ i) : n ||| b = n + b := by
  obtain ⟨a, rfl⟩ := hn; exact (Nat.two_pow_add_eq_or_of_lt h a).symm

theorem or_and_mask (n y i : Nat) (hn : 2 ^ i ∣ n) : n ||| (y &&& 2 ^ i - 1) = n + y % 2 ^ i := by
  rw [Nat.and_two_pow_sub_one_eq_mod, or_eq_add i hn (Nat.mod_lt _ (Nat.two_pow_pos i))]

theorem natCast_sub_bounds {a b : Nat} (ha : a < 9223372036854775808) (hb : b < 9223372036854775808) :
    -9223372036854775808 ≤ (a : Int) - b ∧ (a : Int) - b < 9223372036854775808 := by
  omega

end Inj

