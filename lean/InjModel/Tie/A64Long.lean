/-
  Tie/A64Long.lean — bridge for the macOS AArch64 entry patch: the translated
  `maybe_emit_long_jump` (GenA64M; arithmetic on i128 / i64 / u32) produces exactly
  the words of the hand-written `A64.entryMacos`, for every pair of user-space addresses.
-/
import InjModel.Generated.Fns
import InjModel.Lemmas.Rt
import InjModel.Model.A64
import InjModel.Tie.A64
open Inj.Rt

namespace Inj.Tie

/-- ADRP word: base | immlo<<29 | immhi<<5 | Rd -/
theorem adrp_word (immlo immhi : Nat) (hl : immlo < 4) (hh : immhi < 524288) :
    bor (bor (bor 2415919104 (immlo * 536870912)) (immhi * 32)) 16 = 2415919104 + immlo * 536870912 + immhi * 32 + 16 := by
  -- immlo lands between two set bits of the base
  have h1 : ∀ l < 4, bor 2415919104 (l * 536870912) = 2415919104 + l * 536870912 := by decide
  have h2 : immhi * 32 < 2 ^ 28 := Nat.lt_of_lt_of_le (Nat.mul_lt_mul_of_pos_right hh (by decide)) (by decide)
  rw [h1 _ hl, bor_eq_add (immhi * 32) 28 (by omega) h2, bor_eq_add 16 5 (by omega) (by decide)]

/-- ADD (immediate) word: base | imm12<<10 | Rn<<5 | Rd with Rn = Rd = 16 -/
theorem add_word (low12 : Nat) (h : low12 < 4096) :
    bor (bor (bor 2432696320 (low12 * 1024)) 512) 16 = 2432696320 + low12 * 1024 + 512 + 16 := by
  have h2 : low12 * 1024 < 2 ^ 22 := Nat.mul_lt_mul_of_pos_right h (by decide)
  rw [bor_eq_add (low12 * 1024) 22 (by decide) h2, bor_eq_add 512 10 (by omega) (by decide), bor_eq_add 16 9 (by omega) (by decide)]

/-- macOS `maybe_emit_long_jump(pc, target)` as translated, for user-space addresses: within ±128 MiB
    the single word is the `B` of `A64.entryMacos`; otherwise the three words are its ADRP / ADD / BR. -/
theorem T_a64_long_jump (mode : Mode) (pc target : Nat)
    (hp : pc < 9223372036854775808) (ht : target < 9223372036854775808) :
    GenA64M.maybe_emit_long_jump mode pc target =
      Res.ok (if -134217728 ≤ (target : Int) - pc ∧ (target : Int) - pc < 134217728
              then (A64.entryMacos pc target).take 1 else A64.entryMacos pc target) := by
  have hd : wrapSubS 128 (Int.ofNat target) (Int.ofNat pc) = (target : Int) - pc :=
    wrapS128_id _ (natCast_sub_bounds ht hp).1 (natCast_sub_bounds ht hp).2
  have hsh : sshl 128 mode 1 27 = Res.ok 134217728 := rfl
  have hneg : sneg 128 mode 134217728 = Res.ok (-134217728) := rfl
  simp only [GenA64M.maybe_emit_long_jump, hd, hsh, hneg, ok_bind, A64.entryMacos, Bool.and_eq_true, decide_eq_true_eq]
  by_cases c : -134217728 ≤ (target : Int) - pc ∧ (target : Int) - pc < 134217728
  · have hshr : sshr 128 mode ((target : Int) - pc) 2 = Res.ok (((target : Int) - pc) / 4) := rfl
    have h5 : ushl 32 mode 5 26 = Res.ok 335544320 := rfl
    simp only [if_pos c, hshr, h5, ok_bind, show bor 335544320 (band _ 67108863) = _ from or_and_mask _ _ 26 (by decide)]
    rfl  -- `A64.entryMacos` is written with the extracted constants (`a64Nop` …), which evaluate to these literals
  · have pg : ∀ a : Nat, a < 9223372036854775808 → castUS 64 (band a (unot 64 4095)) = toI64 (a / 4096 * 4096) :=
      fun a ha => by
        have h := Nat.lt_trans ha (show 9223372036854775808 < 18446744073709551616 by decide)
        rw [show band a (unot 64 4095) = a / 4096 * 4096 from and_pagemask a h,
          castUS64 _ (Nat.lt_of_le_of_lt (Nat.div_mul_le_self a 4096) h)]
    have m21 : ∀ x, band x 2097151 = x % 2097152 := fun x => Nat.and_two_pow_sub_one_eq_mod x 21
    have m2 : ∀ x, band x 3 = x % 4 := fun x => Nat.and_two_pow_sub_one_eq_mod x 2
    have m19 : ∀ x, band x 524287 = x % 524288 := fun x => Nat.and_two_pow_sub_one_eq_mod x 19
    have m12 : ∀ x, band x 4095 = x % 4096 := fun x => Nat.and_two_pow_sub_one_eq_mod x 12
    simp only [if_neg c, pg _ ht, pg _ hp, wrapSubS, wrapS64, show ∀ x, sshr 64 mode x 12 = Res.ok (x / 4096) from fun _ => rfl,
      show ∀ x, castSU 64 x = ofInt64 x from fun _ => rfl, show ∀ x, ushr 64 mode x 2 = Res.ok (x / 4) from fun _ => rfl,
      ok_bind, m21, m2, m19, m12]
    generalize ofInt64 _ % 2097152 = imm21
    have hl : imm21 % 4 < 4 := Nat.mod_lt _ (by decide)
    have hh : imm21 / 4 % 524288 < 524288 := Nat.mod_lt _ (by decide)
    have h12 : target % 4096 < 4096 := Nat.mod_lt _ (by decide)
    generalize imm21 % 4 = immlo at hl ⊢
    generalize imm21 / 4 % 524288 = immhi at hh ⊢
    generalize target % 4096 = low12 at h12 ⊢
    have cu : ∀ x, x < 4294967296 → castUU 32 x = x := fun x hx => Nat.mod_eq_of_lt hx
    simp only [cu _ (Nat.lt_trans hl (by decide)), cu _ (Nat.lt_trans hh (by decide)), cu _ (Nat.lt_trans h12 (by decide)),
      ushl_ok 32 mode _ 29 2 (by decide) hl (by decide), ushl_ok 32 mode _ 5 19 (by decide) hh (by decide),
      ushl_ok 32 mode _ 10 12 (by decide) h12 (by decide), show ushl 32 mode 16 5 = Res.ok 512 from rfl, ok_bind, Nat.reducePow,
      adrp_word _ _ hl hh, add_word _ h12]
    rfl  -- again the extracted constants (`a64AdrpBase`, `a64AddBase`, `a64BrBase`, `a64LongReg`) against their values

theorem entryMacos_shape (pc target : Nat) :
    ∃ w0 w1 w2, A64.entryMacos pc target = [w0, w1, w2] ∧
      ((-134217728 ≤ (target : Int) - pc ∧ (target : Int) - pc < 134217728) → w1 = 3573751839 ∧ w2 = 3573751839) := by
  unfold A64.entryMacos
  by_cases c : -134217728 ≤ (target : Int) - pc ∧ (target : Int) - pc < 134217728
  · dsimp only; rw [if_pos c]; exact ⟨_, _, _, rfl, fun _ => ⟨rfl, rfl⟩⟩
  · dsimp only; rw [if_neg c]; exact ⟨_, _, _, rfl, fun h => absurd h c⟩

theorem leBytes4_len (x : Nat) : (leBytes 4 x).length = 4 := rfl

theorem copy12 (a b c : List Nat) (ha : a.length = 4) (hb : b.length = 4) (hc : c.length = 4) :
    (copyInto (List.replicate 12 (0:Nat)) 0 4 a >>= fun u1 =>
      copyInto u1 4 8 b >>= fun u2 => copyInto u2 8 12 c >>= fun u3 => (pure u3 : Res (List Nat)))
      = Res.ok (a ++ b ++ c) := by
  rw [copyInto_word0 ha, Res.bind_ok, copyInto_word1 ha hb, Res.bind_ok, copyInto_word2 ha hb hc, Res.bind_ok, List.append_assoc]
  rfl

/-- the 12 patch bytes: the words of `A64.entryMacos`, little-endian -/
def macosPatch (pc target : Nat) : List Nat := (A64.entryMacos pc target).flatMap (leBytes 4)

/-- macOS `apply_branch_patch` as translated: one `patch_function` of the 12 bytes of
    `A64.entryMacos src jit` (the B padded with NOPs, or ADRP / ADD / BR), then the guard. -/
theorem T_a64m_apply_branch_patch (mode : Mode) (src jit size : Nat) (orig : List Nat) (os : Os)
    (hp : src < 9223372036854775808) (ht : jit < 9223372036854775808) :
    run (GenA64M.apply_branch_patch mode src jit size orig) os =
      (Res.ok (), { os with log := os.log ++
        [("patch_function", [Val.n (Int.ofNat src), Val.bs (macosPatch src jit)]),
         ("PatchGuard::new", [Val.n (Int.ofNat src), Val.bs orig, Val.n (Int.ofNat 12),
            Val.n (Int.ofNat jit), Val.n (Int.ofNat size)])] }) := by
  obtain ⟨w0, w1, w2, hw, hn⟩ := entryMacos_shape src jit
  rw [GenA64M.apply_branch_patch]
  dsimp only
  rw [run_bind_lift_ok _ _ _ _ (T_a64_long_jump mode src jit hp ht), macosPatch, hw]
  by_cases c : -134217728 ≤ (jit : Int) - src ∧ (jit : Int) - src < 134217728
  -- in either case the patch is computed from the literal list of words by index reads and slice copies: it evaluates
  · obtain ⟨rfl, rfl⟩ := hn c
    rw [if_pos c]
    refine (run_bind_ok _ _ _ _ _ rfl).trans ?_
    simp only [rt_step]
    rfl
  · rw [if_neg c]
    refine (run_bind_ok _ _ _ _ _ rfl).trans ?_
    simp only [rt_step]
    rfl
end Inj.Tie

#print axioms Inj.Tie.T_a64_long_jump
#print axioms Inj.Tie.T_a64m_apply_branch_patch
