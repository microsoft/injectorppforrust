import InjModel.Generated.Fns
import InjModel.Lemmas.Rt
import InjModel.Lemmas.Alloc
open Inj.Rt Inj.Alloc

/-
  Tie/Alloc.lean — bridge: `allocate_jit_memory_unix` (common.rs) as translated from the source on
  this run = `Alloc.search`, for every target address with `src + range + page < 2^64`, every page
  size and every script of kernel answers.
  Proved once with the `mmap` flags and the search range as parameters (`alloc_loop`, `alloc_run`,
  `alloc_sound`, about `allocUnix`); the x86-64 theorems here, and the arm64 Linux / macOS ones in
  Tie/A64Install.lean and Tie/A64MAlloc.lean, are instances.
-/
namespace Inj.Tie
/-- the kernel's answer to an `mmap` as the translated code receives it: the address, or `MAP_FAILED`
    (= `usize::MAX`).  Hence the hypothesis `∀ x, some x ∈ answers → x < 18446744073709551615` below: an
    honoured answer is not `MAP_FAILED`. -/
def encAns : Option Nat → Val
  | some a => Val.n a
  | none => Val.n 18446744073709551615

def allocFlags : Int := Rt.sbor 32 (32 : Int) (2 : Int)
def allocProt : Int := Rt.sbor 32 (Rt.sbor 32 (1 : Int) (2 : Int)) (4 : Int)

def encEv : AEvent → String × List Val
  | AEvent.mmap hint len _ => ("mmap", [Val.n hint, Val.n len, Val.n allocProt, Val.n allocFlags, Val.n (-1), Val.n 0])
  | AEvent.munmap a len => ("munmap", [Val.n a, Val.n len])

def mmapCount : List AEvent → Nat
  | [] => 0
  | AEvent.mmap _ _ _ :: es => mmapCount es + 1
  | _ :: es => mmapCount es

def resOf : AResult → Option Nat
  | AResult.ok a => some a
  | _ => none

/-- `encEv` with the configuration's `mmap` flags as a parameter -/
def encEvWith (flags : Int) : AEvent → String × List Val
  | AEvent.mmap hint len _ => ("mmap", [Val.n hint, Val.n len, Val.n allocProt, Val.n flags, Val.n (-1), Val.n 0])
  | AEvent.munmap a len => ("munmap", [Val.n a, Val.n len])

theorem encEv_eq : encEv = encEvWith allocFlags := rfl

theorem absDiff_eq (a b : Nat) : Rt.absDiff a b = Alloc.absDiff a b := rfl

/-- one iteration of the translated search loop on the kernel's answer `ans` to its `mmap` -/
theorem alloc_loop_step (mode : Mode) (flags : Int) (src range page size fuel start : Nat) (ans : Option Nat)
    (as : List Val) (log : List (String × List Val))
    (h : src + range + page < 18446744073709551616) (ha : ∀ a, ans = some a → a < 18446744073709551615) :
    run (GenX86.allocate_jit_memory_unix_loop1 mode size flags range src page (fuel + 1) start)
        { answers := encAns ans :: as, log := log } =
      if start ≤ src + range then
        match ans with
        | some a =>
          if Alloc.absDiff a src < range then
            (Res.ok (some a, start), { answers := as, log := log ++ [encEvWith flags (AEvent.mmap start size (some a))] })
          else run (GenX86.allocate_jit_memory_unix_loop1 mode size flags range src page fuel (start + page))
            { answers := as, log := log ++ [encEvWith flags (AEvent.mmap start size (some a)), encEvWith flags (AEvent.munmap a size)] }
        | none => run (GenX86.allocate_jit_memory_unix_loop1 mode size flags range src page fuel (start + page))
            { answers := as, log := log ++ [encEvWith flags (AEvent.mmap start size none)] }
      else (Res.ok (none, start), { answers := encAns ans :: as, log := log }) := by
  have hu : uadd 64 mode src range = Res.ok (src + range) := uadd_ok _ _ _ _ (by omega)
  rw [GenX86.allocate_jit_memory_unix_loop1, run_bind_lift_ok _ _ _ _ hu]
  by_cases c : start ≤ src + range
  · have hup : uadd 64 mode start page = Res.ok (start + page) := uadd_ok _ _ _ _ (by omega)
    rw [if_pos c, if_pos (decide_eq_true c)]
    cases ans with
    | none =>
      simp only [hup, encAns, encEvWith, allocProt,
        show ((18446744073709551615 : Int).toNat != 18446744073709551615) = false from rfl, Bool.false_eq_true, if_false, rt_step]
    | some a =>
      have e1 : (a != 18446744073709551615) = true := by
        have := ha a rfl
        simp only [bne_iff_ne, ne_eq]; omega
      by_cases d : Alloc.absDiff a src < range <;>
        simp only [hup, d, decide_true, decide_false, if_true, if_false, encAns, encEvWith, allocProt,
          Int.toNat_natCast, e1, absDiff_eq, Bool.false_eq_true, rt_step]
  · rw [if_neg c, if_neg (by simpa using c), run_pure]

/-- The translated search loop = `Alloc.loop`, for every `mmap` flags word and search range (the loop
    is translated once per configuration, with the same body: the other configurations' loops are
    equal to this one). -/
theorem alloc_loop (mode : Mode) (flags : Int) (src range page size : Nat) (h : src + range + page < 18446744073709551616) :
    ∀ (answers : List (Option Nat)), (∀ x, some x ∈ answers → x < 18446744073709551615) →
    ∀ (start : Nat) (log : List (String × List Val)) (tail : List Val),
      (loop src range page size answers start).1 ≠ AResult.stuck →
      ∃ st', run (GenX86.allocate_jit_memory_unix_loop1 mode size flags range src page (answers.length + 1) start)
          { answers := answers.map encAns ++ tail, log := log } =
        (Res.ok (resOf (loop src range page size answers start).1, st'),
         { answers := (answers.drop (mmapCount (loop src range page size answers start).2)).map encAns ++ tail,
           log := log ++ (loop src range page size answers start).2.map (encEvWith flags) }) := by
  intro answers
  induction answers with
  | nil =>
    intro _ start log tail hns
    have hu : uadd 64 mode src range = Res.ok (src + range) := uadd_ok _ _ _ _ (by omega)
    have c : ¬ start ≤ src + range := fun c => hns (by rw [loop, if_pos c])
    rw [GenX86.allocate_jit_memory_unix_loop1, run_bind_lift_ok _ _ _ _ hu, if_neg (by simpa using c), loop, if_neg c]
    exact ⟨start, by simp only [resOf, mmapCount, List.drop_nil, List.map_nil, List.append_nil, rt_step]⟩
  | cons ans rest ih =>
    intro hfresh start log tail hns
    have ih := ih (fun x hx => hfresh x (List.mem_cons_of_mem _ hx)) (start + page)
    rw [List.length_cons, List.map_cons, List.cons_append,
      alloc_loop_step mode flags src range page size _ start ans _ log h fun a e => hfresh a (List.mem_cons.mpr (.inl e.symm))]
    by_cases c : start ≤ src + range
    · cases ans with
      | none =>
        simp only [loop, c, if_true] at hns ⊢
        obtain ⟨st', hst⟩ := ih (log ++ [encEvWith flags (AEvent.mmap start size none)]) tail hns
        exact ⟨st', by simp only [hst, mmapCount, List.drop_succ_cons, List.map_cons, List.append_assoc, List.cons_append, List.nil_append]⟩
      | some a =>
        by_cases d : Alloc.absDiff a src < range
        · exact ⟨start, by simp only [loop, c, d, if_true, resOf, mmapCount, List.drop_succ_cons, List.drop_zero, List.map_cons, List.map_nil]⟩
        · simp only [loop, c, d, if_true, if_false] at hns ⊢
          obtain ⟨st', hst⟩ := ih (log ++ [encEvWith flags (AEvent.mmap start size (some a)), encEvWith flags (AEvent.munmap a size)]) tail hns
          exact ⟨st', by simp only [hst, mmapCount, List.drop_succ_cons, List.map_cons, List.append_assoc, List.cons_append, List.nil_append]⟩
    · exact ⟨start, by cases ans <;> simp only [loop, c, if_false, resOf, mmapCount, List.drop_zero, List.map_nil, List.append_nil, List.map_cons, List.cons_append]⟩

theorem T_alloc_loop (mode : Mode) (src size page : Nat) (h : src + 134217728 + page < 18446744073709551616) :
    ∀ (answers : List (Option Nat)), (∀ x, some x ∈ answers → x < 18446744073709551615) →
    ∀ (start : Nat) (log : List (String × List Val)) (tail : List Val),
      (loop src 134217728 page size answers start).1 ≠ AResult.stuck →
      ∃ st', run (GenX86.allocate_jit_memory_unix_loop1 mode size allocFlags 134217728 src page (answers.length + 1) start)
          { answers := answers.map encAns ++ tail, log := log } =
        (Res.ok (resOf (loop src 134217728 page size answers start).1, st'),
         { answers := (answers.drop (mmapCount (loop src 134217728 page size answers start).2)).map encAns ++ tail,
           log := log ++ (loop src 134217728 page size answers start).2.map encEv }) := by
  rw [encEv_eq]
  exact alloc_loop mode allocFlags src 134217728 page size h

/-- `allocate_jit_memory_unix` with the configuration's `mmap` flags and search range as parameters;
    each configuration's translation unfolds to an instance. -/
def allocUnix (flags : Int) (range : Nat) (mode : Mode) (fuel src size : Nat) : M Nat := do
  let sysconf_1 ← extI "sysconf" [Val.n (30 : Int)]
  let (ret_6, _) ← GenX86.allocate_jit_memory_unix_loop1 mode size flags range src (castSU 64 sysconf_1) fuel (satSub src range)
  match ret_6 with
  | some v_7 => pure v_7
  | none => panicNow "Failed to allocate JIT memory within ±m"

theorem x86_alloc_eq : @GenX86.allocate_jit_memory_unix = allocUnix allocFlags 134217728 := rfl

theorem alloc_run (mode : Mode) (flags : Int) (src range page size : Nat) (h : src + range + page < 18446744073709551616)
    (answers : List (Option Nat)) (hA : ∀ x, some x ∈ answers → x < 18446744073709551615)
    (log : List (String × List Val)) (tail : List Val)
    (hns : (search src range page size answers).1 ≠ AResult.stuck) :
    run (allocUnix flags range mode (answers.length + 1) src size)
        { answers := Val.n page :: (answers.map encAns ++ tail), log := log } =
      ((match (search src range page size answers).1 with
        | AResult.ok a => Res.ok a
        | _ => Res.panic "Failed to allocate JIT memory within ±m"),
       { answers := (answers.drop (mmapCount (search src range page size answers).2)).map encAns ++ tail,
         log := log ++ [("sysconf", [Val.n 30])] ++ (search src range page size answers).2.map (encEvWith flags) }) := by
  have hp : castSU 64 (page : Int) = page := by
    rw [castSU, show (((2:Nat)^64 : Nat) : Int) = 18446744073709551616 from rfl, Int.emod_eq_of_lt (by omega) (by omega),
      Int.toNat_natCast]
  unfold search at hns ⊢
  obtain ⟨st', hst⟩ := alloc_loop mode flags src range page size h answers hA (src - range)
    (log ++ [("sysconf", [Val.n 30])]) tail hns
  simp only [allocUnix, hp, satSub, hst, rt_step]
  cases hr : (loop src range page size answers (src - range)).1 with
  | ok a => simp only [resOf, rt_step]
  | panic => simp only [resOf, rt_step]
  | stuck => exact absurd hr hns

/-- the case the installation theorems use: the kernel honours the first hint with an address `jit` in range -/
theorem alloc_first (mode : Mode) (flags : Int) (src range page size jit : Nat) (h : src + range + page < 18446744073709551616)
    (hj : jit < 18446744073709551615) (hnear : Alloc.absDiff jit src < range)
    (log : List (String × List Val)) (tail : List Val) :
    run (allocUnix flags range mode 2 src size) { answers := Val.n page :: Val.n jit :: tail, log := log } =
      (Res.ok jit, { answers := tail, log := log ++
        [("sysconf", [Val.n 30]), encEvWith flags (AEvent.mmap (src - range) size (some jit))] }) := by
  have hs := search_first src range page size jit hnear
  have ha := alloc_run mode flags src range page size h [some jit] (fun x hx => by cases List.mem_singleton.mp hx; exact hj)
    log tail (by rw [hs]; nofun)
  rw [hs, List.append_assoc] at ha
  exact ha

/-- `allocate_jit_memory_unix` as translated (x86-64 / Linux, range ±128 MiB), run on the kernel's answers (page
    size from `sysconf`, then one answer per hinted `mmap`): it returns what `Alloc.search` returns — the accepted
    address, or the exhaustion panic — after exactly the OS calls `Alloc.search` lists, in that order. -/
theorem T_alloc (mode : Mode) (src size page : Nat) (h : src + 134217728 + page < 18446744073709551616)
    (answers : List (Option Nat)) (hA : ∀ x, some x ∈ answers → x < 18446744073709551615)
    (log : List (String × List Val)) (tail : List Val)
    (hns : (search src 134217728 page size answers).1 ≠ AResult.stuck) :
    run (GenX86.allocate_jit_memory_unix mode (answers.length + 1) src size)
        { answers := Val.n page :: (answers.map encAns ++ tail), log := log } =
      ((match (search src 134217728 page size answers).1 with
        | AResult.ok a => Res.ok a
        | _ => Res.panic "Failed to allocate JIT memory within ±m"),
       { answers := (answers.drop (mmapCount (search src 134217728 page size answers).2)).map encAns ++ tail,
         log := log ++ [("sysconf", [Val.n 30])] ++ (search src 134217728 page size answers).2.map encEv }) := by
  rw [x86_alloc_eq, encEv_eq]
  exact alloc_run mode allocFlags src 134217728 page size h answers hA log tail hns

theorem alloc_sound (mode : Mode) (flags : Int) (src range page size : Nat) (h : src + range + page < 18446744073709551616)
    (answers : List (Option Nat)) (hA : ∀ x, some x ∈ answers → x < 18446744073709551615)
    (log : List (String × List Val)) (tail : List Val)
    (hns : (search src range page size answers).1 ≠ AResult.stuck) (a : Nat)
    (hr : (run (allocUnix flags range mode (answers.length + 1) src size)
        { answers := Val.n page :: (answers.map encAns ++ tail), log := log }).1 = Res.ok a) :
    Alloc.absDiff a src < range := by
  rw [alloc_run mode flags src range page size h answers hA log tail hns] at hr
  cases hsr : (search src range page size answers).1 with
  | ok b =>
    rw [hsr] at hr
    cases hr
    exact ((search_sound src range page size answers).1 a hsr).1
  | panic => rw [hsr] at hr; cases hr
  | stuck => exact absurd hsr hns

/-- C11 read off the translated code: whatever the kernel answers, an address the translated
    allocator returns is strictly within ±128 MiB of the target. -/
theorem T_alloc_sound (mode : Mode) (src size page : Nat) (h : src + 134217728 + page < 18446744073709551616)
    (answers : List (Option Nat)) (hA : ∀ x, some x ∈ answers → x < 18446744073709551615)
    (log : List (String × List Val)) (tail : List Val)
    (hns : (search src 134217728 page size answers).1 ≠ AResult.stuck) (a : Nat)
    (hr : (run (GenX86.allocate_jit_memory_unix mode (answers.length + 1) src size)
        { answers := Val.n page :: (answers.map encAns ++ tail), log := log }).1 = Res.ok a) :
    Alloc.absDiff a src < 134217728 := by
  rw [x86_alloc_eq] at hr
  exact alloc_sound mode allocFlags src 134217728 page size h answers hA log tail hns a hr

end Inj.Tie
#print axioms Inj.Tie.T_alloc_loop
#print axioms Inj.Tie.T_alloc
#print axioms Inj.Tie.T_alloc_sound
