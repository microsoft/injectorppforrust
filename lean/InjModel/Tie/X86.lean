/-
  Tie/X86.lean — bridge theorems: the functions of `patch_amd64.rs`, and the helpers of `common.rs`
  they call (`inject_asm_code`, `patch_function`, `read_bytes`, …), as translated from the source on
  this run (`Generated/Fns.lean`, namespace GenX86) are equal, for every input within the stated
  bounds, to the hand-written model functions the property theorems are stated about.
-/
import InjModel.Generated.Fns
import InjModel.Lemmas.Rt
import InjModel.Lemmas.X86
import InjModel.Lemmas.Mem
import InjModel.Model.Machine
namespace Inj.Tie
open Inj.Rt

/-- `generate_branch_to_target_function` as translated = `X86.genBranch`, for all 64-bit address
    pairs and both build profiles (including which inputs panic in a debug build). -/
theorem T_x86_genBranch (mode : Mode) (o t : Nat) (ho : o < 18446744073709551616) (ht : t < 18446744073709551616) :
    GenX86.generate_branch_to_target_function mode o t = X86.genBranch mode o t := by
  obtain ⟨ha1, ha2⟩ := toI64_bounds o ho
  obtain ⟨hb1, hb2⟩ := toI64_bounds t ht
  simp only [GenX86.generate_branch_to_target_function, X86.genBranch_eq_lit, X86.genBranchLit, castUS64 _ ho,
    castUS64 _ ht, sadd, ssub, chkS64_wrap, castSU32_SS32, leBytes4, leBytes8]
  generalize toI64 o = a at *
  generalize toI64 t = b at *
  -- both sides panic exactly in a debug build whose first or second operation overflows
  by_cases c1 : mode = Mode.debug ∧ ¬(-9223372036854775808 ≤ a + 5 ∧ a + 5 < 9223372036854775808)
  · rw [if_pos c1, if_pos ⟨c1.1, by omega⟩, Res.bind_panic]
  · rw [if_neg c1, Res.bind_ok]
    by_cases c2 : mode = Mode.debug ∧
        ¬(-9223372036854775808 ≤ b - wrapI64 (a + 5) ∧ b - wrapI64 (a + 5) < 9223372036854775808)
    · rw [if_pos c2, if_pos ⟨c2.1, by omega⟩, Res.bind_panic]
    · have c : ¬(mode = Mode.debug ∧ (a + 5 ≥ 9223372036854775808 ∨
          b - wrapI64 (a + 5) < -9223372036854775808 ∨ b - wrapI64 (a + 5) ≥ 9223372036854775808)) :=
        fun ⟨hm, hor⟩ => c1 ⟨hm, fun r1 => c2 ⟨hm, fun r2 => by omega⟩⟩
      rw [if_neg c2, Res.bind_ok, if_neg c]
      simp only [ge_iff_le, Bool.and_eq_true, decide_eq_true_eq]
      -- the same test on both sides; `pure ([] ++ [233] ++ le32 …)` is `Res.ok (233 :: le32 …)` by evaluation
      rfl

theorem T_x86_clear_cache (mode : Mode) (a b : Nat) (os : Os) :
    run (GenX86.clear_cache mode a b) os =
      (Res.ok (), { os with log := os.log ++ [("__clear_cache", [Val.n a, Val.n b])] }) := by
  simp only [GenX86.clear_cache, rt_step]

/-- `inject_asm_code(bs, dest)` as translated: one raw copy of exactly `bs` to `dest`, then one
    cache flush of exactly `[dest, dest + len)`. -/
theorem T_x86_inject (mode : Mode) (bs : List Nat) (dest : Nat) (os : Os) (h : dest + bs.length < 18446744073709551616) :
    run (GenX86.inject_asm_code mode bs dest) os =
      (Res.ok (), { os with log := os.log ++ [("copy_nonoverlapping", [Val.bs bs, Val.n dest, Val.n bs.length]),
                                               ("__clear_cache", [Val.n dest, Val.n ((dest + bs.length : Nat) : Int)])] }) := by
  simp only [GenX86.inject_asm_code, uadd_ok 64 mode dest bs.length h, T_x86_clear_cache, rt_step]

theorem setIdx_boolStub (v : Bool) :
    setIdx [(72 : Nat), 199, 192, 0, 0, 0, 0, 195] 3 (ofBool v) = Res.ok (X86.boolStub v) := by
  cases v <;> rfl

/-- `generate_will_return_boolean_jit_code` as translated copies exactly `X86.boolStub v` to the
    trampoline and then flushes exactly that range (two OS-visible events, nothing else). -/
theorem T_x86_boolStub (mode : Mode) (jit : Nat) (v : Bool) (os : Os) (h : jit + 8 < 18446744073709551616) :
    run (GenX86.generate_will_return_boolean_jit_code mode jit v) os =
      (Res.ok (), { os with log := os.log ++ [("copy_nonoverlapping", [Val.bs (X86.boolStub v), Val.n jit, Val.n 8]),
                                               ("__clear_cache", [Val.n jit, Val.n ((jit + 8 : Nat) : Int)])] }) := by
  simp only [GenX86.generate_will_return_boolean_jit_code, setIdx_boolStub,
    T_x86_inject mode (X86.boolStub v) jit os (by rw [X86.boolStub_length]; exact h), X86.boolStub_length, rt_step]
  rfl

theorem protectSpan_snd (a n : Nat) : (Machine.protectSpan a n).2 = pageStart (a + n + 4095) - pageStart a := rfl

/-- `protected_region_size(addr, len, 4096)` as translated = the length of `Machine.protectSpan`:
    the pages from the one holding `addr` to the one holding the last patched byte. -/
theorem T_x86_region (mode : Mode) (addr len : Nat) (h : addr + len + 4096 < 18446744073709551616) (hl : 1 ≤ len) :
    GenX86.protected_region_size mode addr len 4096 = Res.ok (Machine.protectSpan addr len).2 := by
  have h' : addr + len + 4095 < 18446744073709551616 := Nat.lt_of_succ_lt h
  have hle : pageStart addr ≤ pageStart (addr + len + 4095) :=
    pageStart_mono (Nat.le_add_right_of_le (Nat.le_add_right _ _))
  simp only [GenX86.protected_region_size, Nat.max_eq_left hl, usub_ok 64 mode 4096 1 (by decide) (by decide), ok_bind,
    uadd_ok 64 mode addr len (Nat.lt_of_le_of_lt (Nat.le_add_right _ _) h), uadd_ok 64 mode (addr + len) 4096 h,
    usub_ok 64 mode (addr + len + 4096) 1 (Nat.le_add_left _ _) h, Nat.add_sub_assoc (show 1 ≤ 4096 by decide) (addr + len),
    Nat.reduceSub, band_unot_page 64 addr (by decide) (by omega), band_unot_page 64 (addr + len + 4095) (by decide) h',
    usub_ok 64 mode _ _ hle (Nat.lt_of_le_of_lt (pageStart_le _) h'), protectSpan_snd]

/-- `make_memory_writable_and_executable_linux` as translated: `sysconf`, then one `mprotect` of exactly
    `Machine.protectSpan func len` with PROT_READ|WRITE|EXEC. -/
theorem T_x86_mprotect (mode : Mode) (func len : Nat) (log : List (String × List Val)) (tail : List Val)
    (h : func + len + 4096 < 18446744073709551616) (hl : 1 ≤ len) :
    run (GenX86.make_memory_writable_and_executable_linux mode func len)
        { answers := Val.n 4096 :: Val.n 0 :: tail, log := log } =
      (Res.ok (), { answers := tail, log := log ++
        [("sysconf", [Val.n 30]),
         ("mprotect", [Val.n ((Machine.protectSpan func len).1 : Nat), Val.n ((Machine.protectSpan func len).2 : Nat), Val.n 7])] }) := by
  simp only [GenX86.make_memory_writable_and_executable_linux, show castSU 64 (4096 : Int) = 4096 by decide,
    usub_ok 64 mode 4096 1 (by decide) (by decide), Nat.reduceSub, T_x86_region mode func len h hl,
    band_unot_page 64 func (by decide) (by omega), bne_self_eq_false, Bool.false_eq_true, if_false, rt_step]
  rfl  -- `PROT_READ | PROT_WRITE | PROT_EXEC` evaluates to 7, and `pageStart func` is `(protectSpan func len).1`

/-- `patch_function(func, patch)` (Linux) as translated performs exactly the OS-visible steps of
    `Machine.patchFunction`: mprotect of `protectSpan func len` with rwx, one raw copy of `patch` to
    `func`, one flush of `[func, func+len)` — after asking `sysconf` for the page size. -/
theorem T_x86_patch_function (mode : Mode) (func : Nat) (patch : List Nat) (log : List (String × List Val)) (tail : List Val)
    (h : func + patch.length + 4096 < 18446744073709551616) (hl : 1 ≤ patch.length) :
    run (GenX86.patch_function mode func patch) { answers := Val.n 4096 :: Val.n 0 :: tail, log := log } =
      (Res.ok (), { answers := tail, log := log ++
        [("sysconf", [Val.n 30]),
         ("mprotect", [Val.n ((Machine.protectSpan func patch.length).1 : Nat), Val.n ((Machine.protectSpan func patch.length).2 : Nat), Val.n 7]),
         ("copy_nonoverlapping", [Val.bs patch, Val.n func, Val.n patch.length]),
         ("__clear_cache", [Val.n func, Val.n ((func + patch.length : Nat) : Int)])] }) := by
  simp only [GenX86.patch_function, GenX86.make_memory_writable_and_executable,
    T_x86_mprotect mode func patch.length log tail h hl, T_x86_inject mode patch func _ (by omega), rt_step]

/-- `read_bytes(ptr, len)` as translated: one read of memory (the oracle supplies the bytes) -/
theorem T_x86_read_bytes (mode : Mode) (ptr len : Nat) (bs : List Nat) (rest : List Val) (log : List (String × List Val)) :
    run (GenX86.read_bytes mode ptr len) { answers := Val.bs bs :: rest, log := log } =
      (Res.ok bs, { answers := rest, log := log ++ [("read_bytes", [Val.n ptr, Val.n len])] }) := by
  simp only [GenX86.read_bytes, rt_step]

end Inj.Tie
#print axioms Inj.Tie.T_x86_mprotect
#print axioms Inj.Tie.T_x86_patch_function
#print axioms Inj.Tie.T_x86_region
#print axioms Inj.Tie.T_x86_boolStub
#print axioms Inj.Tie.T_x86_genBranch
#print axioms Inj.Tie.T_x86_inject
#print axioms Inj.Tie.T_x86_clear_cache
#print axioms Inj.Tie.T_x86_read_bytes
