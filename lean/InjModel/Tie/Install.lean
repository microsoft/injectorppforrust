/-
  Tie/Install.lean — bridge: the x86-64 installation path (`patch_and_guard`,
  `replace_function_with_other_function`, `replace_function_return_boolean`) and `PatchGuard::drop` as
  translated from the source on this run perform exactly the OS-visible sequences that `Machine.installX86`
  and `Machine.restoreGuard` model.  Both installers are one theorem, `x86_install` (any payload, any
  behaviour of the kernel during the search), and one refinement, `x86_install_refines`; the installation theorems named
  `T_…` are its instances.
-/
import InjModel.Tie.X86
import InjModel.Tie.Alloc
import InjModel.Lemmas.Machine
open Inj.Rt Inj.Alloc Inj.Machine

namespace Inj.Tie

/-- `patch_and_guard(src, jit, jit_size)` as translated: encode the entry branch func → jit, read the
    bytes it will overwrite, `patch_function`, and build the guard from exactly (func, saved bytes,
    branch length, jit, jit_size) — the steps of `Machine.installX86` after the trampoline is filled. -/
theorem T_x86_patch_and_guard (mode : Mode) (func jit jsz : Nat) (br saved : List Nat)
    (log : List (String × List Val)) (tail : List Val)
    (hf : func < 18446744073709551616) (hj : jit < 18446744073709551616)
    (hbr : X86.genBranch mode func jit = Res.ok br) (h : func + 12 + 4096 < 18446744073709551616) :
    run (GenX86.patch_and_guard mode func jit jsz)
        { answers := Val.bs saved :: Val.n 4096 :: Val.n 0 :: tail, log := log } =
      (Res.ok (), { answers := tail, log := log ++
        [("read_bytes", [Val.n func, Val.n br.length]),
         ("sysconf", [Val.n 30]),
         ("mprotect", [Val.n ((Machine.protectSpan func br.length).1 : Nat), Val.n ((Machine.protectSpan func br.length).2 : Nat), Val.n 7]),
         ("copy_nonoverlapping", [Val.bs br, Val.n func, Val.n br.length]),
         ("__clear_cache", [Val.n func, Val.n ((func + br.length : Nat) : Int)]),
         ("PatchGuard::new", [Val.n func, Val.bs saved, Val.n br.length, Val.n jit, Val.n jsz])] }) := by
  have hlen := X86.genBranch_length hbr
  simp only [GenX86.patch_and_guard, T_x86_genBranch mode func jit hf hj, hbr, T_x86_read_bytes,
    T_x86_patch_function mode func br _ tail (by omega) (by omega), rt_step]

/-- `allocate_jit_memory(src, size)` as translated, on a script that the search accepts with `jit` and uses up:
    page size, then the search's own calls -/
theorem x86_allocate (mode : Mode) (func size jit : Nat) (answers : List (Option Nat)) (evs : List AEvent)
    (log : List (String × List Val)) (tail : List Val)
    (hf : func + 134217728 + 4096 < 18446744073709551616)
    (hA : ∀ x, some x ∈ answers → x < 18446744073709551615)
    (hs : search func 134217728 4096 size answers = (AResult.ok jit, evs))
    (hall : mmapCount evs = answers.length) :
    run (GenX86.allocate_jit_memory mode (answers.length + 1) func size)
        { answers := Val.n (4096 : Nat) :: (answers.map encAns ++ tail), log := log } =
      (Res.ok jit, { answers := tail, log := log ++ [("sysconf", [Val.n 30])] ++ evs.map encEv }) := by
  have ha := T_alloc mode func size 4096 hf answers hA log tail (by rw [hs]; simp)
  rw [hs] at ha
  simp only [hall, List.drop_length, List.map_nil, List.nil_append] at ha
  rw [GenX86.allocate_jit_memory, ha]

/-- the two installers as one: the payload decides what fills the trampoline -/
def installer (mode : Mode) (fuel func : Nat) : Payload → M Unit
  | Payload.exec fake => GenX86.replace_function_with_other_function mode fuel func fake
  | Payload.bool v => GenX86.replace_function_return_boolean mode fuel func v

/-- what an installation logs once it has its trampoline at `jit`: `code` copied there and flushed, then the
    calls of `patch_and_guard` -/
def installCalls (func jit jsz : Nat) (code br saved : List Nat) : List (String × List Val) :=
  [("copy_nonoverlapping", [Val.bs code, Val.n jit, Val.n code.length]),
   ("__clear_cache", [Val.n jit, Val.n ((jit + code.length : Nat) : Int)]),
   ("read_bytes", [Val.n func, Val.n br.length]),
   ("sysconf", [Val.n 30]),
   ("mprotect", [Val.n ((Machine.protectSpan func br.length).1 : Nat), Val.n ((Machine.protectSpan func br.length).2 : Nat), Val.n 7]),
   ("copy_nonoverlapping", [Val.bs br, Val.n func, Val.n br.length]),
   ("__clear_cache", [Val.n func, Val.n ((func + br.length : Nat) : Int)]),
   ("PatchGuard::new", [Val.n func, Val.bs saved, Val.n br.length, Val.n jit, Val.n jsz])]

/-- **The x86-64 installation, either payload, any behaviour of the kernel during the search**: if `Alloc.search`
    accepts `jit`, the translated installer makes the search's OS calls, writes `payloadCode` to `jit`, flushes
    it, then does `patch_and_guard` — the steps of `Machine.installX86`. -/
theorem x86_install (mode : Mode) (func jit : Nat) (p : Payload) (answers : List (Option Nat)) (evs : List AEvent)
    (code br saved : List Nat) (log : List (String × List Val)) (tail : List Val)
    (hf : func + 134217728 + 4096 < 18446744073709551616)
    (hk : ∀ fake, p = Payload.exec fake → fake < 18446744073709551616)
    (hA : ∀ x, some x ∈ answers → x < 18446744073709551615)
    (hs : search func 134217728 4096 p.jitSize answers = (AResult.ok jit, evs))
    (hall : mmapCount evs = answers.length)
    (hcode : payloadCode mode p jit = some code)
    (hbr : X86.genBranch mode func jit = Res.ok br) :
    run (installer mode (answers.length + 1) func p)
        { answers := Val.n (4096 : Nat) :: (answers.map encAns ++ (Val.bs saved :: Val.n 4096 :: Val.n 0 :: tail)),
          log := log } =
      (Res.ok (), { answers := tail, log := log ++ [("sysconf", [Val.n 30])] ++ evs.map encEv ++
        installCalls func jit p.jitSize code br saved }) := by
  have hj : jit + 12 < 18446744073709551616 := by
    have := ((absDiff_lt jit func _).mp ((search_sound func 134217728 4096 _ answers).1 jit (by rw [hs])).1).1
    omega
  have hpg := fun jsz log =>
    T_x86_patch_and_guard mode func jit jsz br saved log tail (by omega) (by omega) hbr (by omega)
  cases p with
  | exec fake =>
    have hg := payloadCode_exec.mp hcode
    have hclen := X86.genBranch_length hg
    simp only [installer, GenX86.replace_function_with_other_function,
      x86_allocate (size := 12) (hf := hf) (hA := hA) (hs := hs) (hall := hall),
      T_x86_genBranch mode jit fake (by omega) (hk fake rfl), hg, T_x86_inject mode code jit _ (by omega), hpg,
      installCalls, rt_step]
    rfl  -- `(Payload.exec fake).jitSize` is the 12 the source passes
  | bool v =>
    obtain rfl : X86.boolStub v = code := Option.some.inj hcode
    simp only [installer, GenX86.replace_function_return_boolean,
      x86_allocate (size := 8) (hf := hf) (hA := hA) (hs := hs) (hall := hall), T_x86_boolStub mode jit v _ (by omega),
      hpg, installCalls, X86.boolStub_length, rt_step]
    rfl

/-- `x86_install` when the kernel honours the first hint -/
theorem x86_install_first (mode : Mode) (func jit : Nat) (p : Payload) (code br saved : List Nat)
    (log : List (String × List Val)) (tail : List Val)
    (hf : func + 134217728 + 4096 < 18446744073709551616)
    (hk : ∀ fake, p = Payload.exec fake → fake < 18446744073709551616)
    (hj : jit < 18446744073709551615) (hnear : Alloc.absDiff jit func < 134217728)
    (hcode : payloadCode mode p jit = some code) (hbr : X86.genBranch mode func jit = Res.ok br) :
    run (installer mode 2 func p)
        { answers := Val.n (4096 : Nat) :: Val.n jit :: Val.bs saved :: Val.n 4096 :: Val.n 0 :: tail, log := log } =
      (Res.ok (), { answers := tail, log := log ++
        (("sysconf", [Val.n 30]) ::
         ("mmap", [Val.n ((func - 134217728 : Nat) : Int), Val.n p.jitSize, Val.n allocProt, Val.n allocFlags, Val.n (-1), Val.n 0]) ::
         installCalls func jit p.jitSize code br saved) }) := by
  refine (x86_install mode func jit p [some jit] _ code br saved log tail hf hk
    (fun x hx => by cases List.mem_singleton.mp hx; exact hj) (search_first func _ _ _ jit hnear) rfl hcode hbr).trans ?_
  simp only [encEv, List.map_cons, List.map_nil, rt_step]

/-- The whole x86-64 installation `replace_function_with_other_function(func, fake)` as translated,
    when the kernel honours the first hint with `jit` (strictly within ±128 MiB): the OS-visible
    sequence is exactly the one `Machine.installX86` models — page size, the hinted `mmap`, the
    trampoline code `genBranch jit fake` copied to `jit` and flushed, then `patch_and_guard`. -/
theorem T_x86_install_exec (mode : Mode) (func fake jit page : Nat) (code br saved : List Nat)
    (log : List (String × List Val)) (tail : List Val)
    (hf : func + 134217728 + 4096 < 18446744073709551616) (hk : fake < 18446744073709551616)
    (hj : jit < 18446744073709551615) (hp : page = 4096)
    (hnear : Alloc.absDiff jit func < 134217728)
    (hcode : X86.genBranch mode jit fake = Res.ok code)
    (hbr : X86.genBranch mode func jit = Res.ok br) :
    run (GenX86.replace_function_with_other_function mode 2 func fake)
        { answers := Val.n page :: Val.n jit :: Val.bs saved :: Val.n 4096 :: Val.n 0 :: tail, log := log } =
      (Res.ok (), { answers := tail, log := log ++
        [("sysconf", [Val.n 30]),
         ("mmap", [Val.n ((func - 134217728 : Nat) : Int), Val.n 12, Val.n allocProt, Val.n allocFlags, Val.n (-1), Val.n 0]),
         ("copy_nonoverlapping", [Val.bs code, Val.n jit, Val.n code.length]),
         ("__clear_cache", [Val.n jit, Val.n ((jit + code.length : Nat) : Int)]),
         ("read_bytes", [Val.n func, Val.n br.length]),
         ("sysconf", [Val.n 30]),
         ("mprotect", [Val.n ((Machine.protectSpan func br.length).1 : Nat), Val.n ((Machine.protectSpan func br.length).2 : Nat), Val.n 7]),
         ("copy_nonoverlapping", [Val.bs br, Val.n func, Val.n br.length]),
         ("__clear_cache", [Val.n func, Val.n ((func + br.length : Nat) : Int)]),
         ("PatchGuard::new", [Val.n func, Val.bs saved, Val.n br.length, Val.n jit, Val.n 12])] }) := by
  subst hp
  exact x86_install_first mode func jit (Payload.exec fake) code br saved log tail hf (fun _ e => by cases e; exact hk)
    hj hnear (payloadCode_exec.mpr hcode) hbr

/-- The boolean installation `replace_function_return_boolean(func, v)` as translated, first hint
    honoured with `jit`: page size, the hinted 8-byte `mmap`, the stub `X86.boolStub v` copied to `jit`
    and flushed, then `patch_and_guard` with jit size 8. -/
theorem T_x86_install_bool (mode : Mode) (func jit : Nat) (v : Bool) (br saved : List Nat)
    (log : List (String × List Val)) (tail : List Val)
    (hf : func + 134217728 + 4096 < 18446744073709551616)
    (hj : jit < 18446744073709551615)
    (hnear : Alloc.absDiff jit func < 134217728)
    (hbr : X86.genBranch mode func jit = Res.ok br) :
    run (GenX86.replace_function_return_boolean mode 2 func v)
        { answers := Val.n (4096 : Nat) :: Val.n jit :: Val.bs saved :: Val.n 4096 :: Val.n 0 :: tail, log := log } =
      (Res.ok (), { answers := tail, log := log ++
        [("sysconf", [Val.n 30]),
         ("mmap", [Val.n ((func - 134217728 : Nat) : Int), Val.n 8, Val.n allocProt, Val.n allocFlags, Val.n (-1), Val.n 0]),
         ("copy_nonoverlapping", [Val.bs (X86.boolStub v), Val.n jit, Val.n 8]),
         ("__clear_cache", [Val.n jit, Val.n ((jit + 8 : Nat) : Int)]),
         ("read_bytes", [Val.n func, Val.n br.length]),
         ("sysconf", [Val.n 30]),
         ("mprotect", [Val.n ((Machine.protectSpan func br.length).1 : Nat), Val.n ((Machine.protectSpan func br.length).2 : Nat), Val.n 7]),
         ("copy_nonoverlapping", [Val.bs br, Val.n func, Val.n br.length]),
         ("__clear_cache", [Val.n func, Val.n ((func + br.length : Nat) : Int)]),
         ("PatchGuard::new", [Val.n func, Val.bs saved, Val.n br.length, Val.n jit, Val.n 8])] }) := by
  have h := x86_install_first mode func jit (Payload.bool v) _ br saved log tail hf (fun _ e => Payload.noConfusion e)
    hj hnear rfl hbr
  rwa [installCalls, X86.boolStub_length] at h

/-- reading of one logged OS call of the translated code as a `Machine.Event` (`jit` = what the kernel
    answered to the hinted mmap); calls the machine model does not log (`sysconf`, `read_bytes`, the
    guard constructor) give `none` -/
def toEvent (jit : Nat) : String × List Val → Option Event
  | ("mmap", [_, Val.n len, _, _, _, _]) => some (Event.mmap jit len.toNat)
  | ("munmap", [Val.n a, Val.n l]) => some (Event.munmap a.toNat l.toNat)
  | ("mprotect", [Val.n a, Val.n l, _]) => some (Event.mprotect a.toNat l.toNat)
  | ("copy_nonoverlapping", [Val.bs b, Val.n d, _]) => some (Event.write d.toNat b)
  | ("__clear_cache", [Val.n lo, Val.n hi]) => some (Event.flush lo.toNat hi.toNat)
  | _ => none

theorem toEvent_mmap (jit len : Nat) (hint prot flags fd off : Val) :
    toEvent jit ("mmap", [hint, Val.n len, prot, flags, fd, off]) = some (Event.mmap jit len) := by
  rw [toEvent, Int.toNat_natCast]

theorem toEvent_munmap (jit a l : Nat) : toEvent jit ("munmap", [Val.n a, Val.n l]) = some (Event.munmap a l) := by
  rw [toEvent, Int.toNat_natCast, Int.toNat_natCast]

theorem toEvent_mprotect (jit a l : Nat) (prot : Val) :
    toEvent jit ("mprotect", [Val.n a, Val.n l, prot]) = some (Event.mprotect a l) := by
  rw [toEvent, Int.toNat_natCast, Int.toNat_natCast]

theorem toEvent_copy (jit d : Nat) (b : List Nat) (n : Val) :
    toEvent jit ("copy_nonoverlapping", [Val.bs b, Val.n d, n]) = some (Event.write d b) := by
  rw [toEvent, Int.toNat_natCast]

theorem toEvent_flush (jit lo hi : Nat) :
    toEvent jit ("__clear_cache", [Val.n lo, Val.n hi]) = some (Event.flush lo hi) := by
  rw [toEvent, Int.toNat_natCast, Int.toNat_natCast]

theorem toEvent_other (jit : Nat) (name : String) (args : List Val)
    (h : name ∉ ["mmap", "munmap", "mprotect", "copy_nonoverlapping", "__clear_cache"]) :
    toEvent jit (name, args) = none := by
  rw [toEvent]
  -- side goals of the fall-through equation, one per named pattern: an instance `e` of it would put `name` in `h`'s list
  all_goals
    intros
    rename_i e
    exact h (by cases e; simp)

/-- **Refinement of the machine model by the translated code**, for either payload (first hint honoured):
    whenever `Machine.installX86` succeeds, the translated installer, run on the same kernel answers, succeeds
    too and the OS calls it logs — read as machine events — are exactly the events the model appends, in order
    (the model's closing `Event.ret` is no OS call and stands in front). -/
theorem x86_install_refines (mode : Mode) (s s' : MState) (func jit : Nat) (p : Payload) (saved : List Nat)
    (log : List (String × List Val)) (tail : List Val)
    (hf : func + 134217728 + 4096 < 18446744073709551616)
    (hk : ∀ fake, p = Payload.exec fake → fake < 18446744073709551616)
    (hj : jit < 18446744073709551615) (hnear : Alloc.absDiff jit func < 134217728)
    (hi : installX86 mode s func p jit = some s') :
    (run (installer mode 2 func p)
        { answers := Val.n (4096 : Nat) :: Val.n jit :: Val.bs saved :: Val.n 4096 :: Val.n 0 :: tail, log := log }).1 = Res.ok () ∧
    s'.log = Event.ret ::
      ((((run (installer mode 2 func p)
        { answers := Val.n (4096 : Nat) :: Val.n jit :: Val.bs saved :: Val.n 4096 :: Val.n 0 :: tail, log := log }).2.log.drop log.length).filterMap (toEvent jit)).reverse ++ s.log) := by
  obtain ⟨code, br, hc, hb, rfl⟩ := installX86_eq hi
  rw [x86_install_first mode func jit p code br saved log tail hf hk hj hnear hc hb]
  refine ⟨rfl, ?_⟩
  -- `List.filterMap_cons` holds by `rfl`: `simp` would take it as a definitional step and the kernel would evaluate
  -- `toEvent` on every call; the conditional forms carry the lemma about `toEvent` as their proof
  simp only [List.drop_left, installCalls, List.filterMap_nil, List.filterMap_cons_some (toEvent_mmap ..),
    List.filterMap_cons_some (toEvent_mprotect ..), List.filterMap_cons_some (toEvent_copy ..),
    List.filterMap_cons_some (toEvent_flush ..), List.filterMap_cons_none (toEvent_other _ "sysconf" _ (by simp)),
    List.filterMap_cons_none (toEvent_other _ "read_bytes" _ (by simp)),
    List.filterMap_cons_none (toEvent_other _ "PatchGuard::new" _ (by simp))]
  rfl  -- `installEvents` is this list, newest first

/-- **Refinement of the machine model by the translated code** (x86-64, executable payload, first
    hint honoured): whenever `Machine.installX86` succeeds, the translated
    `replace_function_with_other_function`, run on the same kernel answers, succeeds too and the OS
    calls it logs — read as machine events — are exactly the events the model appends, in order, before its
    closing `Event.ret`. -/
theorem T_x86_install_refines (mode : Mode) (s s' : MState) (func fake jit : Nat) (saved : List Nat)
    (log : List (String × List Val)) (tail : List Val)
    (hf : func + 134217728 + 4096 < 18446744073709551616) (hk : fake < 18446744073709551616)
    (hj : jit < 18446744073709551615) (hnear : Alloc.absDiff jit func < 134217728)
    (hi : installX86 mode s func (Payload.exec fake) jit = some s') :
    (run (GenX86.replace_function_with_other_function mode 2 func fake)
        { answers := Val.n (4096 : Nat) :: Val.n jit :: Val.bs saved :: Val.n 4096 :: Val.n 0 :: tail, log := log }).1 = Res.ok () ∧
    s'.log = Event.ret ::
      ((((run (GenX86.replace_function_with_other_function mode 2 func fake)
        { answers := Val.n (4096 : Nat) :: Val.n jit :: Val.bs saved :: Val.n 4096 :: Val.n 0 :: tail, log := log }).2.log.drop log.length).filterMap (toEvent jit)).reverse ++ s.log) := by
  have h := x86_install_refines mode s s' func jit (Payload.exec fake) saved log tail hf
    (fun _ e => by cases e; exact hk) hj hnear hi
  rwa [installer] at h

/-- refinement of `Machine.installX86` with the boolean payload by the translated code -/
theorem T_x86_install_bool_refines (mode : Mode) (s s' : MState) (func jit : Nat) (v : Bool) (saved : List Nat)
    (log : List (String × List Val)) (tail : List Val)
    (hf : func + 134217728 + 4096 < 18446744073709551616)
    (hj : jit < 18446744073709551615) (hnear : Alloc.absDiff jit func < 134217728)
    (hi : installX86 mode s func (Payload.bool v) jit = some s') :
    (run (GenX86.replace_function_return_boolean mode 2 func v)
        { answers := Val.n (4096 : Nat) :: Val.n jit :: Val.bs saved :: Val.n 4096 :: Val.n 0 :: tail, log := log }).1 = Res.ok () ∧
    s'.log = Event.ret ::
      ((((run (GenX86.replace_function_return_boolean mode 2 func v)
        { answers := Val.n (4096 : Nat) :: Val.n jit :: Val.bs saved :: Val.n 4096 :: Val.n 0 :: tail, log := log }).2.log.drop log.length).filterMap (toEvent jit)).reverse ++ s.log) := by
  have h := x86_install_refines mode s s' func jit (Payload.bool v) saved log tail hf
    (fun _ e => Payload.noConfusion e) hj hnear hi
  rwa [installer] at h

/-- what `PatchGuard::drop` logs: `patch_function` with the saved bytes, `munmap` of the trampoline if there is
    one, one more flush of the entry -/
def dropCalls (func : Nat) (bs : List Nat) (psz jit jsz : Nat) : List (String × List Val) :=
  [("sysconf", [Val.n 30]),
   ("mprotect", [Val.n ((Machine.protectSpan func psz).1 : Nat), Val.n ((Machine.protectSpan func psz).2 : Nat), Val.n 7]),
   ("copy_nonoverlapping", [Val.bs bs, Val.n func, Val.n psz]),
   ("__clear_cache", [Val.n func, Val.n ((func + psz : Nat) : Int)])] ++
  (if jit ≠ 0 then [("munmap", [Val.n jit, Val.n jsz])] else []) ++
  [("__clear_cache", [Val.n func, Val.n ((func + psz : Nat) : Int)])]

/-- `PatchGuard::drop` as translated: `patch_function(func, saved[..patch_size])`, then `munmap` of the
    trampoline when there is one, then one more flush of the entry range — the steps of
    `Machine.restoreGuard`, in its order. -/
theorem T_x86_drop (mode : Mode) (func : Nat) (saved : List Nat) (psz jit jsz : Nat)
    (log : List (String × List Val)) (tail : List Val)
    (h : func + psz + 4096 < 18446744073709551616) (hl : 1 ≤ psz) (hs : psz ≤ saved.length) :
    run (GenX86.drop mode func saved psz jit jsz) { answers := Val.n 4096 :: Val.n 0 :: tail, log := log } =
      (Res.ok (), { answers := tail, log := log ++ dropCalls func (saved.take psz) psz jit jsz }) := by
  have hsl : Rt.slice saved 0 psz = Res.ok (saved.take psz) := by
    rw [Rt.slice, if_pos ⟨Nat.zero_le _, hs⟩]; rfl
  have hlen : (saved.take psz).length = psz := List.length_take_of_le hs
  have hpf := T_x86_patch_function mode func (saved.take psz) log tail (by rw [hlen]; exact h) (by rw [hlen]; exact hl)
  rw [hlen] at hpf
  simp only [GenX86.drop, hsl, hpf, run_ite, uadd_ok 64 mode func psz (by omega), T_x86_clear_cache, dropCalls,
    Bool.not_eq_true', beq_eq_false_iff_ne, rt_step]
  split <;> rfl

/-- **Refinement for the restore path**: the OS calls the translated `PatchGuard::drop` logs for a
    guard `g`, read as machine events, are exactly what `Machine.restoreGuard` appends, in order. -/
theorem T_x86_drop_refines (mode : Mode) (s : MState) (g : Guard)
    (log : List (String × List Val)) (tail : List Val)
    (h : g.addr + g.patchLen + 4096 < 18446744073709551616) (hl : 1 ≤ g.patchLen) (hs : g.patchLen ≤ g.saved.length) :
    (run (GenX86.drop mode g.addr g.saved g.patchLen g.jit g.jitLen)
        { answers := Val.n 4096 :: Val.n 0 :: tail, log := log }).1 = Res.ok () ∧
    (restoreGuard s g).log =
      (((run (GenX86.drop mode g.addr g.saved g.patchLen g.jit g.jitLen)
        { answers := Val.n 4096 :: Val.n 0 :: tail, log := log }).2.log.drop log.length).filterMap (toEvent 0)).reverse ++ s.log := by
  -- `toEvent 0`: a drop logs no `mmap`, the only call whose reading uses the argument
  rw [T_x86_drop mode g.addr g.saved g.patchLen g.jit g.jitLen log tail h hl hs]
  refine ⟨rfl, ?_⟩
  simp only [List.drop_left, dropCalls, List.filterMap_append, apply_ite (List.filterMap (toEvent 0)), List.filterMap_nil,
    List.filterMap_cons_some (toEvent_munmap ..), List.filterMap_cons_some (toEvent_mprotect ..),
    List.filterMap_cons_some (toEvent_copy ..), List.filterMap_cons_some (toEvent_flush ..),
    List.filterMap_cons_none (toEvent_other _ "sysconf" _ (by simp)), restoreGuard_log, restoreEvents,
    List.length_take_of_le hs]
  split <;> rfl
end Inj.Tie
#print axioms Inj.Tie.T_x86_patch_and_guard
#print axioms Inj.Tie.T_x86_install_exec
#print axioms Inj.Tie.T_x86_install_refines
#print axioms Inj.Tie.T_x86_drop
#print axioms Inj.Tie.T_x86_drop_refines
#print axioms Inj.Tie.T_x86_install_bool
#print axioms Inj.Tie.T_x86_install_bool_refines
