/-
  Tie/A64.lean — bridges for the AArch64/Linux configuration: the shared OS-facing functions
  (`inject_asm_code` with its `dsb sy; isb`, `patch_function`; the `mprotect` wrapper, and with it
  `protected_region_size`, by equality with the x86-64 translation) and the entry
  patch `apply_branch_patch` as translated from the source on this run = `A64.entryLinux`.
-/
import InjModel.Generated.Fns
import InjModel.Lemmas.Rt
import InjModel.Lemmas.A64
import InjModel.Model.Machine
import InjModel.Tie.X86
open Inj.Rt

namespace Inj.Tie

theorem T_a64_clear_cache (mode : Mode) (a b : Nat) (os : Os) :
    run (GenA64L.clear_cache mode a b) os =
      (Res.ok (), { os with log := os.log ++ [("__clear_cache", [Val.n a, Val.n b]), ("asm", [])] }) := by
  simp only [GenA64L.clear_cache, rt_step]

theorem T_a64_inject (mode : Mode) (bs : List Nat) (dest : Nat) (os : Os) (h : dest + bs.length < 18446744073709551616) :
    run (GenA64L.inject_asm_code mode bs dest) os =
      (Res.ok (), { os with log := os.log ++ [("copy_nonoverlapping", [Val.bs bs, Val.n dest, Val.n bs.length]),
                                               ("__clear_cache", [Val.n dest, Val.n ((dest + bs.length : Nat) : Int)]), ("asm", [])] }) := by
  simp only [GenA64L.inject_asm_code, uadd_ok 64 mode dest bs.length h, T_a64_clear_cache, rt_step]

/-- `protected_region_size` and the `mprotect` wrapper are translated with their x86-64 bodies: Lean unfolds both
    configurations' functions to the same term, so the x86-64 bridges are the proofs -/
theorem T_a64_region (mode : Mode) (addr len : Nat) (h : addr + len + 4096 < 18446744073709551616) (hl : 1 ≤ len) :
    GenA64L.protected_region_size mode addr len 4096 = Res.ok (Machine.protectSpan addr len).2 :=
  T_x86_region mode addr len h hl

theorem T_a64_mprotect (mode : Mode) (func len : Nat) (log : List (String × List Val)) (tail : List Val)
    (h : func + len + 4096 < 18446744073709551616) (hl : 1 ≤ len) :
    run (GenA64L.make_memory_writable_and_executable_linux mode func len)
        { answers := Val.n 4096 :: Val.n 0 :: tail, log := log } =
      (Res.ok (), { answers := tail, log := log ++
        [("sysconf", [Val.n 30]),
         ("mprotect", [Val.n ((Machine.protectSpan func len).1 : Nat), Val.n ((Machine.protectSpan func len).2 : Nat), Val.n 7])] }) :=
  T_x86_mprotect mode func len log tail h hl

theorem T_a64_patch_function (mode : Mode) (func : Nat) (patch : List Nat) (log : List (String × List Val)) (tail : List Val)
    (h : func + patch.length + 4096 < 18446744073709551616) (hl : 1 ≤ patch.length) :
    run (GenA64L.patch_function mode func patch) { answers := Val.n 4096 :: Val.n 0 :: tail, log := log } =
      (Res.ok (), { answers := tail, log := log ++
        [("sysconf", [Val.n 30]),
         ("mprotect", [Val.n ((Machine.protectSpan func patch.length).1 : Nat), Val.n ((Machine.protectSpan func patch.length).2 : Nat), Val.n 7]),
         ("copy_nonoverlapping", [Val.bs patch, Val.n func, Val.n patch.length]),
         ("__clear_cache", [Val.n func, Val.n ((func + patch.length : Nat) : Int)]), ("asm", [])] }) := by
  simp only [GenA64L.patch_function, GenA64L.make_memory_writable_and_executable,
    T_a64_mprotect mode func patch.length log tail h hl, T_a64_inject mode patch func _ (by omega), rt_step]

/-- `GenA64L.read_bytes` has the body of `GenX86.read_bytes` (there is no pointer arithmetic in it) -/
theorem T_a64_read_bytes (mode : Mode) (ptr len : Nat) (bs : List Nat) (rest : List Val) (log : List (String × List Val)) :
    run (GenA64L.read_bytes mode ptr len) { answers := Val.bs bs :: rest, log := log } =
      (Res.ok bs, { answers := rest, log := log ++ [("read_bytes", [Val.n ptr, Val.n len])] }) :=
  T_x86_read_bytes mode ptr len bs rest log

/-- Linux `apply_branch_patch(func, jit, ..)` as translated, for user-space addresses: it refuses
    (panics before any OS call) exactly when `A64.entryLinux` refuses, and otherwise patches `func`
    with exactly the bytes of `A64.entryLinux func jit` (B imm26; NOP; NOP) through `patch_function`
    and builds the guard from (func, saved bytes, 12, jit, jit_size).  (Of `hf` the proof uses `func < 2^63` and
    `func + 12 + 4096 < 2^64`.) -/
theorem T_a64_entry (mode : Mode) (func jit jsz : Nat) (saved : List Nat)
    (log : List (String × List Val)) (tail : List Val)
    (hf : func < 9223372036854775808 - 8192) (hj : jit < 9223372036854775808) :
    run (GenA64L.apply_branch_patch mode func jit jsz saved) { answers := Val.n 4096 :: Val.n 0 :: tail, log := log } =
      match A64.entryLinux func jit with
      | Res.panic _ => (Res.panic "JIT memory is out of branch range: offse", { answers := Val.n 4096 :: Val.n 0 :: tail, log := log })
      | Res.ok ws => (Res.ok (), { answers := tail, log := log ++
          [("sysconf", [Val.n 30]),
           ("mprotect", [Val.n ((Machine.protectSpan func 12).1 : Nat), Val.n ((Machine.protectSpan func 12).2 : Nat), Val.n 7]),
           ("copy_nonoverlapping", [Val.bs (A64.wordsToBytes ws), Val.n func, Val.n 12]),
           ("__clear_cache", [Val.n func, Val.n ((func + 12 : Nat) : Int)]), ("asm", []),
           ("PatchGuard::new", [Val.n func, Val.bs saved, Val.n 12, Val.n jit, Val.n jsz])] }) := by
  have hf' : func < 9223372036854775808 := Nat.lt_of_lt_of_le hf (Nat.sub_le ..)
  have hf12 : func + 12 + 4096 < 18446744073709551616 := by omega
  have tf := toI64_of_lt _ hf'
  have tj := toI64_of_lt _ hj
  have hd := natCast_sub_bounds hj hf'
  have hsub : ssub 64 mode (castUS 64 jit) (castUS 64 func) = Res.ok ((jit : Int) - func) := by
    rw [castUS64 _ (Nat.lt_trans hj (by decide)), castUS64 _ (Nat.lt_trans hf' (by decide)), tf, tj, ssub, chkS64, if_pos hd]
  have hdiv : sdiv 64 ((jit : Int) - func) 4 = Res.ok (Int.tdiv ((jit : Int) - func) 4) := by
    -- `/` truncates toward zero: 4 * quotient + remainder = difference, with |remainder| < 4
    have e := Int.tmod_add_tdiv_mul ((jit : Int) - func) 4
    have l := Int.tmod_lt_of_pos ((jit : Int) - func) (show (0 : Int) < 4 by decide)
    have g := Int.lt_tmod_of_pos ((jit : Int) - func) (show (0 : Int) < 4 by decide)
    rw [sdiv, if_neg (by decide), if_pos]
    generalize Int.tdiv ((jit : Int) - func) 4 = t at e
    generalize Int.tmod ((jit : Int) - func) 4 = r at e l g
    generalize (jit : Int) - func = d at e hd
    exact decide_eq_true (by omega : -9223372036854775808 ≤ t ∧ t < 9223372036854775808)
  rw [A64.entryLinux_eq_lit]
  simp only [GenA64L.apply_branch_patch, hsub, hdiv, A64.entryLinuxLit, tf, tj, rt_step]
  generalize Int.tdiv ((jit : Int) - func) 4 = off
  by_cases c : -33554432 ≤ off ∧ off ≤ 33554431
  · have hw : bor 335544320 (band (castSU 32 off) 67108863) = 335544320 ||| (ofInt32 off &&& 67108863) := by
      simp only [bor, band, castSU, ofInt32, Nat.reducePow, Int.cast_ofNat_Int]
    have hb : ∀ a b c : Nat, A64.wordsToBytes [a, b, c] = le32 a ++ (le32 b ++ le32 c) := fun _ _ _ => rfl
    have hpf := T_a64_patch_function mode func
      (le32 (335544320 ||| (ofInt32 off &&& 67108863)) ++ (le32 3573751839 ++ le32 3573751839))
      log tail hf12 (by decide : 1 ≤ 12)
    simp only [c, and_self, if_true, decide_true, Bool.and_self, Bool.not_true, Bool.false_eq_true, if_false, leBytes4, hw,
      copyInto_word0 (le32_length _), copyInto_word1 (le32_length _) (le32_length _), copyInto_word2 (le32_length _) (le32_length _) (le32_length _),
      hb, hpf, Int.cast_ofNat_Int, rt_step]
    rfl  -- the length of the three words evaluates to 12
  · have cb : (!(decide ((-33554432 : Int) ≤ off) && decide (off ≤ (33554431 : Int)))) = true := by
      rw [Bool.not_eq_true', Bool.and_eq_false_iff, decide_eq_false_iff_not, decide_eq_false_iff_not]
      exact Decidable.not_and_iff_not_or_not.1 c
    simp only [c, cb, if_true, if_false, rt_step]
end Inj.Tie

#print axioms Inj.Tie.T_a64_clear_cache
#print axioms Inj.Tie.T_a64_inject
#print axioms Inj.Tie.T_a64_region
#print axioms Inj.Tie.T_a64_mprotect
#print axioms Inj.Tie.T_a64_patch_function
#print axioms Inj.Tie.T_a64_entry
#print axioms Inj.Tie.T_a64_read_bytes
