/-
  Tie/A64Install.lean — the AArch64/Linux allocator (same source function, translated in the arm64
  configuration) = `Alloc.search`, and the whole AArch64 installation as a sequence of OS calls.
-/
import InjModel.Tie.Alloc
import InjModel.Tie.A64Emit
open Inj.Rt Inj.Alloc

namespace Inj.Tie

/-- the same term once both are unfolded (`rfl` alone does not unfold a recursive loop) -/
theorem a64_alloc_loop_eq : @GenA64L.allocate_jit_memory_unix_loop1 = @GenX86.allocate_jit_memory_unix_loop1 := by
  delta GenA64L.allocate_jit_memory_unix_loop1 GenX86.allocate_jit_memory_unix_loop1
  rfl

theorem a64_alloc_eq : @GenA64L.allocate_jit_memory_unix = allocUnix allocFlags 134217728 := by
  delta GenA64L.allocate_jit_memory_unix allocUnix
  rw [a64_alloc_loop_eq]
  rfl

theorem T_a64_alloc_loop (mode : Mode) (src size page : Nat) (h : src + 134217728 + page < 18446744073709551616) :
    ∀ (answers : List (Option Nat)), (∀ x, some x ∈ answers → x < 18446744073709551615) →
    ∀ (start : Nat) (log : List (String × List Val)) (tail : List Val),
      (loop src 134217728 page size answers start).1 ≠ AResult.stuck →
      ∃ st', run (GenA64L.allocate_jit_memory_unix_loop1 mode size allocFlags 134217728 src page (answers.length + 1) start)
          { answers := answers.map encAns ++ tail, log := log } =
        (Res.ok (resOf (loop src 134217728 page size answers start).1, st'),
         { answers := (answers.drop (mmapCount (loop src 134217728 page size answers start).2)).map encAns ++ tail,
           log := log ++ (loop src 134217728 page size answers start).2.map encEv }) := by
  rw [a64_alloc_loop_eq]
  exact T_alloc_loop mode src size page h

/-- `T_alloc` in the AArch64 / Linux configuration (same flags, same range) -/
theorem T_a64_alloc (mode : Mode) (src size page : Nat) (h : src + 134217728 + page < 18446744073709551616)
    (answers : List (Option Nat)) (hA : ∀ x, some x ∈ answers → x < 18446744073709551615)
    (log : List (String × List Val)) (tail : List Val)
    (hns : (search src 134217728 page size answers).1 ≠ AResult.stuck) :
    run (GenA64L.allocate_jit_memory_unix mode (answers.length + 1) src size)
        { answers := Val.n page :: (answers.map encAns ++ tail), log := log } =
      ((match (search src 134217728 page size answers).1 with
        | AResult.ok a => Res.ok a
        | _ => Res.panic "Failed to allocate JIT memory within ±m"),
       { answers := (answers.drop (mmapCount (search src 134217728 page size answers).2)).map encAns ++ tail,
         log := log ++ [("sysconf", [Val.n 30])] ++ (search src 134217728 page size answers).2.map encEv }) := by
  rw [a64_alloc_eq, encEv_eq]
  exact alloc_run mode allocFlags src 134217728 page size h answers hA log tail hns

/-- `replace_function_with_other_function` and `replace_function_return_boolean` as translated are both
    this: read the 12 entry bytes, map `n` bytes near `src`, let `gen` fill them, patch the entry. -/
def installWith (gen : Nat → M Unit) (n : Nat) (mode : Mode) (fuel src : Nat) : M Unit := do
  let original_bytes ← GenA64L.read_bytes mode src (12 : Nat)
  let jit_memory ← GenA64L.allocate_jit_memory mode fuel src n
  gen jit_memory
  GenA64L.apply_branch_patch mode src jit_memory n original_bytes
  pure ()

/-- the installation, first hint honoured with `jit`, for any generator that copies `n` bytes `code` to the
    mapping and flushes them -/
theorem installWith_run (gen : Nat → M Unit) (n : Nat) (code : List Nat) (mode : Mode) (func jit : Nat) (ws saved : List Nat)
    (log : List (String × List Val)) (tail : List Val)
    (hf : func + 134217728 + 8192 < 9223372036854775808) (hj : jit < 9223372036854775808)
    (hnear : Alloc.absDiff jit func < 134217728)
    (hws : A64.entryLinux func jit = Res.ok ws)
    (hgen : ∀ os, run (gen jit) os = (Res.ok (), { os with log := os.log ++
      [("copy_nonoverlapping", [Val.bs code, Val.n jit, Val.n n]),
       ("__clear_cache", [Val.n jit, Val.n ((jit + n : Nat) : Int)]), ("asm", [])] })) :
    run (installWith gen n mode 2 func)
        { answers := Val.bs saved :: Val.n (4096 : Nat) :: Val.n jit :: Val.n 4096 :: Val.n 0 :: tail, log := log } =
      (Res.ok (), { answers := tail, log := log ++
        [("read_bytes", [Val.n func, Val.n 12]),
         ("sysconf", [Val.n 30]), encEv (AEvent.mmap (func - 134217728) n (some jit)),
         ("copy_nonoverlapping", [Val.bs code, Val.n jit, Val.n n]),
         ("__clear_cache", [Val.n jit, Val.n ((jit + n : Nat) : Int)]), ("asm", []),
         ("sysconf", [Val.n 30]),
         ("mprotect", [Val.n ((Machine.protectSpan func 12).1 : Nat), Val.n ((Machine.protectSpan func 12).2 : Nat), Val.n 7]),
         ("copy_nonoverlapping", [Val.bs (A64.wordsToBytes ws), Val.n func, Val.n 12]),
         ("__clear_cache", [Val.n func, Val.n ((func + 12 : Nat) : Int)]), ("asm", []),
         ("PatchGuard::new", [Val.n func, Val.bs saved, Val.n 12, Val.n jit, Val.n n])] }) := by
  have he := fun log => T_a64_entry mode func jit n saved log tail (by omega) hj
  rw [hws] at he
  simp only [installWith, GenA64L.allocate_jit_memory, a64_alloc_eq, encEv_eq, T_a64_read_bytes,
    alloc_first mode allocFlags func 134217728 4096 n jit (by omega) (by omega) hnear, hgen, he, rt_step]
  rfl

/-- The whole AArch64/Linux installation `replace_function_with_other_function(func, fake)` as translated,
    first hint honoured with `jit`: the 12 entry bytes are read, the hinted 20-byte `mmap`, the
    trampoline `A64.tramp fake` copied to `jit` and flushed (with the barrier), then the entry patched
    with `A64.entryLinux func jit` and the guard built. -/
theorem T_a64_install_exec (mode : Mode) (func fake jit : Nat) (ws saved : List Nat)
    (log : List (String × List Val)) (tail : List Val)
    (hf : func + 134217728 + 8192 < 9223372036854775808) (hj : jit < 9223372036854775808)
    (hnear : Alloc.absDiff jit func < 134217728)
    (hws : A64.entryLinux func jit = Res.ok ws) :
    run (GenA64L.replace_function_with_other_function mode 2 func fake)
        { answers := Val.bs saved :: Val.n (4096 : Nat) :: Val.n jit :: Val.n 4096 :: Val.n 0 :: tail, log := log } =
      (Res.ok (), { answers := tail, log := log ++
        [("read_bytes", [Val.n func, Val.n 12]),
         ("sysconf", [Val.n 30]),
         ("mmap", [Val.n ((func - 134217728 : Nat) : Int), Val.n 20, Val.n allocProt, Val.n allocFlags, Val.n (-1), Val.n 0]),
         ("copy_nonoverlapping", [Val.bs (A64.wordsToBytes (A64.tramp fake)), Val.n jit, Val.n 20]),
         ("__clear_cache", [Val.n jit, Val.n ((jit + 20 : Nat) : Int)]), ("asm", []),
         ("sysconf", [Val.n 30]),
         ("mprotect", [Val.n ((Machine.protectSpan func 12).1 : Nat), Val.n ((Machine.protectSpan func 12).2 : Nat), Val.n 7]),
         ("copy_nonoverlapping", [Val.bs (A64.wordsToBytes ws), Val.n func, Val.n 12]),
         ("__clear_cache", [Val.n func, Val.n ((func + 12 : Nat) : Int)]), ("asm", []),
         ("PatchGuard::new", [Val.n func, Val.bs saved, Val.n 12, Val.n jit, Val.n 20])] }) :=
  -- the translated installer unfolds to this `installWith`, `encEv` to the `mmap` call
  installWith_run (fun jit => GenA64L.generate_will_execute_jit_code_abs mode jit fake) 20 _ mode func jit ws saved log tail
    hf hj hnear hws (fun os => T_a64_tramp mode jit fake os (by omega))

/-- The AArch64/Linux boolean installation `replace_function_return_boolean(func, v)` as translated, first hint
    honoured with `jit`: the 12 entry bytes are read, the hinted 8-byte `mmap`, the stub `A64.boolStub v`
    (`movz x0, #v; ret`) copied to `jit` and flushed (with the barrier), then the entry patched with
    `A64.entryLinux func jit` and the guard built. -/
theorem T_a64_install_bool_exec (mode : Mode) (func jit : Nat) (v : Bool) (ws saved : List Nat)
    (log : List (String × List Val)) (tail : List Val)
    (hf : func + 134217728 + 8192 < 9223372036854775808) (hj : jit < 9223372036854775808)
    (hnear : Alloc.absDiff jit func < 134217728)
    (hws : A64.entryLinux func jit = Res.ok ws) :
    run (GenA64L.replace_function_return_boolean mode 2 func v)
        { answers := Val.bs saved :: Val.n (4096 : Nat) :: Val.n jit :: Val.n 4096 :: Val.n 0 :: tail, log := log } =
      (Res.ok (), { answers := tail, log := log ++
        [("read_bytes", [Val.n func, Val.n 12]),
         ("sysconf", [Val.n 30]),
         ("mmap", [Val.n ((func - 134217728 : Nat) : Int), Val.n 8, Val.n allocProt, Val.n allocFlags, Val.n (-1), Val.n 0]),
         ("copy_nonoverlapping", [Val.bs (A64.wordsToBytes (A64.boolStub v)), Val.n jit, Val.n 8]),
         ("__clear_cache", [Val.n jit, Val.n ((jit + 8 : Nat) : Int)]), ("asm", []),
         ("sysconf", [Val.n 30]),
         ("mprotect", [Val.n ((Machine.protectSpan func 12).1 : Nat), Val.n ((Machine.protectSpan func 12).2 : Nat), Val.n 7]),
         ("copy_nonoverlapping", [Val.bs (A64.wordsToBytes ws), Val.n func, Val.n 12]),
         ("__clear_cache", [Val.n func, Val.n ((func + 12 : Nat) : Int)]), ("asm", []),
         ("PatchGuard::new", [Val.n func, Val.bs saved, Val.n 12, Val.n jit, Val.n 8])] }) :=
  -- as above
  installWith_run (fun jit => GenA64L.generate_will_return_boolean_jit_code mode jit v) 8 _ mode func jit ws saved log tail
    hf hj hnear hws (fun os => T_a64_boolStub mode jit v os (by omega))

end Inj.Tie
#print axioms Inj.Tie.T_a64_alloc_loop
#print axioms Inj.Tie.T_a64_alloc
#print axioms Inj.Tie.T_a64_install_exec
#print axioms Inj.Tie.T_a64_install_bool_exec
