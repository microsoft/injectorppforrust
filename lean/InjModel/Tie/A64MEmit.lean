/-
  Tie/A64MEmit.lean — the trampoline builders in the macOS configuration (`GenA64M`): the shared bodies of
  Tie/A64Emit.lean with the macOS `inject_asm_code`, which toggles the JIT write protection around the copy and
  asks for an instruction-cache invalidation of the range (its absence was finding F9, DESIGN.md §7).
-/
import InjModel.Tie.A64Emit
import InjModel.Tie.MacFlush
open Inj.Rt
namespace Inj.Tie

/-- what the macOS `inject_asm_code` asks of the platform around a copy of `bs` to `dest` -/
def macInjectLog (bs : List Nat) (dest : Nat) : List (String × List Val) :=
  [("pthread_jit_write_protect_np", [Val.n 0]),
   ("copy_nonoverlapping", [Val.bs bs, Val.n (Int.ofNat dest), Val.n (Int.ofNat bs.length)]),
   ("pthread_jit_write_protect_np", [Val.n 1]),
   ("sys_icache_invalidate", [Val.n (Int.ofNat dest), Val.n (Int.ofNat bs.length)]), ("asm", [])]

/-- `GenA64M.inject_asm_code` has the body of `GenMac.inject_asm_code`, and `macInjectLog bs dest` is the list that
    `T_mac_inject` writes out -/
theorem T_a64m_inject (mode : Mode) (bs : List Nat) (dest : Nat) (os : Os) (h : dest + bs.length < 18446744073709551616) :
    run (GenA64M.inject_asm_code mode bs dest) os = (Res.ok (), { os with log := os.log ++ macInjectLog bs dest }) :=
  T_mac_inject mode bs dest os h

theorem T_a64m_clear_cache (mode : Mode) (start end_ : Nat) (os : Os) (h : start ≤ end_) (he : end_ < 18446744073709551616) :
    run (GenA64M.clear_cache mode start end_) os =
      (Res.ok (), mlogs os [("sys_icache_invalidate", [Val.n (Int.ofNat start), Val.n (Int.ofNat (end_ - start))]), ("asm", [])]) :=
  T_mac_clear_cache mode start end_ os h he

/-! The bit-level emitters are translated in the macOS configuration with the bodies they have in the Linux one.
    Each bridge of Tie/A64Emit.lean holds of the `GenA64M` function with the `GenA64L` theorem as its proof: Lean
    unfolds both functions and finds the same term, and no longer does once the two translations differ. -/

theorem T_a64m_u64_to_bits (mode : Mode) (n : Nat) : GenA64M.u64_to_bits mode n = Res.ok (A64.natToBits n 64) :=
  T_a64_u64_to_bits mode n

theorem T_a64m_u8_to_bits_5 (mode : Mode) (n : Nat) : GenA64M.u8_to_bits_5 mode n = Res.ok (A64.natToBits n 5) :=
  T_a64_u8_to_bits_5 mode n

theorem T_a64m_u8_to_bits_2 (mode : Mode) (n : Nat) : GenA64M.u8_to_bits_2 mode n = Res.ok (A64.natToBits n 2) :=
  T_a64_u8_to_bits_2 mode n

open Inj.Generated.Consts in
theorem T_a64m_emit_movz (mode : Mode) (imm : Nat) (sf : Bool) (hw rd : Nat) :
    GenA64M.emit_movz mode (A64.natToBits imm 16) sf (A64.natToBits hw 2) (A64.natToBits rd 5) =
      Res.ok (A64.emitBits { reg := rd, imm := imm, hw := hw, sf := sf } emitMovz) :=
  T_a64_emit_movz mode imm sf hw rd

open Inj.Generated.Consts in
theorem T_a64m_emit_movk (mode : Mode) (imm : Nat) (sf : Bool) (hw rd : Nat) :
    GenA64M.emit_movk mode (A64.natToBits imm 16) sf (A64.natToBits hw 2) (A64.natToBits rd 5) =
      Res.ok (A64.emitBits { reg := rd, imm := imm, hw := hw, sf := sf } emitMovk) :=
  T_a64_emit_movk mode imm sf hw rd

open Inj.Generated.Consts in
theorem T_a64m_emit_movz_from_address (mode : Mode) (address start : Nat) (sf : Bool) (hw rd : Nat) (hs : start + 16 ≤ 64) :
    GenA64M.emit_movz_from_address mode address start sf (A64.natToBits hw 2) (A64.natToBits rd 5) =
      Res.ok (A64.emitBits { reg := rd, imm := A64.chunk address start, hw := hw, sf := sf } emitMovz) :=
  T_a64_emit_movz_from_address mode address start sf hw rd hs

open Inj.Generated.Consts in
theorem T_a64m_emit_movk_from_address (mode : Mode) (address start : Nat) (sf : Bool) (hw rd : Nat) (hs : start + 16 ≤ 64) :
    GenA64M.emit_movk_from_address mode address start sf (A64.natToBits hw 2) (A64.natToBits rd 5) =
      Res.ok (A64.emitBits { reg := rd, imm := A64.chunk address start, hw := hw, sf := sf } emitMovk) :=
  T_a64_emit_movk_from_address mode address start sf hw rd hs

open Inj.Generated.Consts in
theorem T_a64m_emit_br (mode : Mode) (rn : Nat) :
    GenA64M.emit_br mode (A64.natToBits rn 5) = Res.ok (A64.emitBits { reg := rn, imm := 0, hw := 0, sf := false } emitBr) :=
  T_a64_emit_br mode rn

open Inj.Generated.Consts in
theorem T_a64m_emit_ret (mode : Mode) (rn : Nat) :
    GenA64M.emit_ret mode (A64.natToBits rn 5) = Res.ok (A64.emitBits { reg := rn, imm := 0, hw := 0, sf := false } emitRet) :=
  T_a64_emit_ret mode rn

theorem T_a64m_bool_array_to_u32 (mode : Mode) (bits : List Bool) (h : bits.length ≤ 32) :
    GenA64M.bool_array_to_u32 mode bits = Res.ok (A64.bitsToNat bits) :=
  T_a64_bool_array_to_u32 mode bits h

theorem T_a64m_append_instruction (mode : Mode) (code : List Nat) (w : Nat) :
    GenA64M.append_instruction mode code w = Res.ok (code ++ le32 w) :=
  T_a64_append_instruction mode code w

theorem T_a64m_write_instruction (mode : Mode) (pre : List Nat) (k w : Nat) (hk : 4 ≤ k)
    (hl : pre.length + k < 18446744073709551616) :
    GenA64M.write_instruction mode (pre ++ List.replicate k 0) pre.length w =
      Res.ok ((pre ++ le32 w) ++ List.replicate (k - 4) 0, (pre ++ le32 w).length) :=
  T_a64_write_instruction mode pre k w hk hl

/-- the two generators too, up to their `inject_asm_code`; `GenA64M.emit_ret_x30`, which has no bridge of its own, is
    checked to be the Linux one by the second `rfl` -/
theorem a64m_tramp_eq :
    @GenA64M.generate_will_execute_jit_code_abs = fun mode => trampWith (GenA64M.inject_asm_code mode) mode := rfl

theorem a64m_boolStub_eq :
    @GenA64M.generate_will_return_boolean_jit_code = fun mode => boolStubWith (GenA64M.inject_asm_code mode) mode := rfl

/-- `generate_will_execute_jit_code_abs(jit, fake)` as translated: the 20 bytes copied to the trampoline
    (between the write-protection toggles, then invalidated) are exactly the words of `A64.tramp fake` —
    `movz` and three `movk` building the 64-bit address of the fake in x9 and `br x9` — for every 64-bit
    fake address. -/
theorem T_a64m_tramp (mode : Mode) (jit fake : Nat) (os : Os) (hj : jit + 20 < 18446744073709551616) :
    run (GenA64M.generate_will_execute_jit_code_abs mode jit fake) os =
      (Res.ok (), { os with log := os.log ++ macInjectLog (A64.wordsToBytes (A64.tramp fake)) jit }) := by
  rw [a64m_tramp_eq, trampWith_run, T_a64m_inject mode _ jit os (by rw [trampBytes_length]; exact hj)]

/-- `generate_will_return_boolean_jit_code(jit, v)` as translated: the 8 bytes copied (between the toggles, then
    invalidated) are exactly `A64.boolStub v` — `movz x0, #v; ret x30` -/
theorem T_a64m_boolStub (mode : Mode) (jit : Nat) (v : Bool) (os : Os) (hj : jit + 8 < 18446744073709551616) :
    run (GenA64M.generate_will_return_boolean_jit_code mode jit v) os =
      (Res.ok (), { os with log := os.log ++ macInjectLog (A64.wordsToBytes (A64.boolStub v)) jit }) := by
  rw [a64m_boolStub_eq, boolStubWith_run, T_a64m_inject mode _ jit os (by rw [boolStubBytes_length]; exact hj)]
end Inj.Tie

#print axioms Inj.Tie.T_a64m_tramp
#print axioms Inj.Tie.T_a64m_boolStub
#print axioms Inj.Tie.T_a64m_inject
#print axioms Inj.Tie.T_a64m_clear_cache
#print axioms Inj.Tie.T_a64m_u64_to_bits
#print axioms Inj.Tie.T_a64m_u8_to_bits_5
#print axioms Inj.Tie.T_a64m_u8_to_bits_2
#print axioms Inj.Tie.T_a64m_emit_movz
#print axioms Inj.Tie.T_a64m_emit_movk
#print axioms Inj.Tie.T_a64m_emit_movz_from_address
#print axioms Inj.Tie.T_a64m_emit_movk_from_address
#print axioms Inj.Tie.T_a64m_emit_br
#print axioms Inj.Tie.T_a64m_emit_ret
#print axioms Inj.Tie.T_a64m_bool_array_to_u32
#print axioms Inj.Tie.T_a64m_append_instruction
#print axioms Inj.Tie.T_a64m_write_instruction
