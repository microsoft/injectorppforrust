/-
  Tie/SigText.lean — bridge for the forced-boolean gate: the translated `signature_returns_bool`
  (GenIf; chars, UTF-8 byte offsets, `find`, `char_indices`, slicing, `trim`) computes, for every
  signature text, exactly `Sig.returnsBoolText`, and never panics.
-/
import InjModel.Generated.Fns
import InjModel.Lemmas.Rt
import InjModel.Model.SigText
import InjModel.Lemmas.SigText
open Inj.Rt Inj.Sig

namespace Inj.Tie

theorem utf8Len_lp : utf8Len '(' = 1 := by decide

/-- `find('(')`: no occurrence, or the split of the text at the first one -/
theorem strFindFrom_lp_spec (s : List Char) (off : Nat) :
    (strFindFrom off s '(' = none ∧ afterParamsC s = none) ∨
    (∃ pre post, s = pre ++ '(' :: post ∧ strFindFrom off s '(' = some (off + strLen pre) ∧
      afterParamsC s = afterCloseC 1 post) := by
  induction s generalizing off with
  | nil => exact .inl ⟨rfl, rfl⟩
  | cons c cs ih =>
    by_cases h : c = '('
    · subst h
      exact .inr ⟨[], cs, rfl, rfl, afterParamsC_lp cs⟩
    · have hf : strFindFrom off (c :: cs) '(' = strFindFrom (off + utf8Len c) cs '(' := by simp [strFindFrom, h]
      rw [hf, afterParamsC_other h]
      rcases ih (off + utf8Len c) with ⟨h1, h2⟩ | ⟨pre, post, e, h1, h2⟩
      · exact .inl ⟨h1, h2⟩
      · exact .inr ⟨c :: pre, post, by rw [e]; rfl, by rw [h1, strLen, Nat.add_assoc], h2⟩

/-- the scan of the translated loop is `afterCloseC`.  `open_` is the byte offset of the first `(` in `s`, `pre` the
    text already scanned (the `(` included), `xs` the rest, with byte offsets relative to `open_` starting at `off`;
    the last side condition keeps the depth below the number of bytes read. -/
theorem returns_bool_for1_spec (mode : Mode) (s : List Char) (open_ : Nat) (hs : strLen s < 9223372036854775808) :
    ∀ (xs pre : List Char) (d off : Nat), s = pre ++ xs → open_ + off = strLen pre → d + 1 ≤ strLen pre →
      ∃ d', GenIf.signature_returns_bool_for1 mode s open_ (charIndicesFrom off xs) (d + 1) =
        Res.ok ((afterCloseC (d + 1) xs).map (fun rest => strTrim rest == arrowBool), d') := by
  intro xs
  induction xs with
  | nil => intro pre d off _ _ _; exact ⟨d + 1, rfl⟩
  | cons c cs ih =>
    intro pre d off e ho hd
    have hc := utf8Len_pos c
    have hlen : strLen pre + (utf8Len c + strLen cs) = strLen s := by rw [e, strLen_append]; rfl
    -- the depth is at most the number of bytes read (`hd`), so neither `depth + 1` nor the index of the slice leaves u64
    have h64 : d + 1 + 1 < 18446744073709551616 ∧ open_ + off + 1 < 18446744073709551616 := by omega
    have ih := fun d' (h : d' ≤ d + 1) => ih (pre ++ [c]) d' (off + utf8Len c) (by rw [e, List.append_assoc]; rfl)
      (by rw [strLen_append, ← ho, Nat.add_assoc]; rfl)
      (by rw [strLen_append]; exact Nat.add_le_add (Nat.le_trans h hd) hc)
    rw [charIndicesFrom, GenIf.signature_returns_bool_for1]
    by_cases h1 : c = '('
    · subst h1
      obtain ⟨d', hd'⟩ := ih (d + 1) (Nat.le_refl _)
      rw [if_pos (beq_self_eq_true _), uadd_ok 64 mode (d + 1) 1 h64.1, Res.bind_ok, afterCloseC_lp]
      exact ⟨d', hd'⟩
    · by_cases h2 : c = ')'
      · subst h2
        rw [if_neg (by decide), if_pos (beq_self_eq_true _), usub_ok 64 mode (d + 1) 1 (Nat.le_add_left 1 d) (Nat.lt_of_succ_lt h64.1),
          Res.bind_ok, Nat.add_sub_cancel]
        dsimp only   -- the translated `let depth := ..`: `rw` does not reach below it
        cases d with
        | zero =>
          have : open_ + off + 1 = strLen (pre ++ [')']) := by rw [strLen_append, ho]; rfl
          rw [if_pos (beq_self_eq_true _), uadd_ok 64 mode open_ off (Nat.lt_of_succ_lt h64.2), Res.bind_ok,
            uadd_ok 64 mode _ 1 h64.2, Res.bind_ok, this, e, List.append_cons, strFrom_append, Res.bind_ok]
          exact ⟨0, rfl⟩
        | succ d =>
          rw [if_neg (Nat.succ_ne_zero d ∘ beq_iff_eq.mp), afterCloseC_rp]
          exact ih d (Nat.le_add_right d 2)
      · rw [if_neg (h1 ∘ beq_iff_eq.mp), if_neg (h2 ∘ beq_iff_eq.mp), afterCloseC_other h1 h2]
        exact ih d (Nat.le_succ d)

/-- the translated `signature_returns_bool` is `Sig.returnsBoolText`, for every text (a `&str` is
    at most `isize::MAX` bytes long), in both build profiles, and it never panics -/
theorem T_sig_returns_bool (mode : Mode) (s : List Char) (hs : strLen s < 9223372036854775808) :
    GenIf.signature_returns_bool mode s = Res.ok (returnsBoolText s) := by
  unfold GenIf.signature_returns_bool returnsBoolText strFind
  rcases strFindFrom_lp_spec s 0 with ⟨h1, h2⟩ | ⟨pre, post, e, h1, h2⟩
  · rw [h1, h2]; rfl
  · have hsl : strFrom s (strLen pre) = Res.ok ('(' :: post) := by rw [e, strFrom_append]
    obtain ⟨d', hd'⟩ := returns_bool_for1_spec mode s (strLen pre) hs post (pre ++ ['(']) 0 (0 + utf8Len '(')
      (by rw [e, List.append_assoc]; rfl) (by rw [strLen_append, Nat.zero_add]; rfl)
      (by rw [strLen_append]; exact Nat.le_add_left 1 _)
    rw [h1, h2, Nat.zero_add]
    dsimp only
    rw [hsl, Res.bind_ok, charIndices, charIndicesFrom, GenIf.signature_returns_bool_for1,
      if_pos (beq_self_eq_true _), uadd_ok 64 mode 0 1 (by decide), Res.bind_ok, hd', Res.bind_ok]
    cases afterCloseC 1 post <;> rfl

/-- **C10's gate clause on the code as translated**: for every function-pointer type, spelled with
    any names that meet `NamesOK`, in both build profiles, the translated `signature_returns_bool`
    returns (never panics) `true` exactly when the return type is `bool`. -/
theorem T_c10_gate_translated (mode : Mode) (nm : Names) (ok : NamesOK nm) (f : FnTy)
    (hs : strLen (spellC nm (renderFn f)) < 9223372036854775808) :
    ∃ b, GenIf.signature_returns_bool mode (spellC nm (renderFn f)) = Res.ok b ∧
      (b = true ↔ f.ret = Ty.prim boolId) :=
  ⟨_, T_sig_returns_bool mode _ hs, returnsBoolText_renderFn nm ok f⟩

/-- sanity (tests, not the theorem): the spec on three literal texts -/
example : returnsBoolText ['f', 'n', '(', 'i', '3', '2', ')', ' ', '-', '>', ' ', 'b', 'o', 'o', 'l'] = true := by decide
example : returnsBoolText ['f', 'n', '(', ')', ' ', '-', '>', ' ', 'f', 'n', '(', ')', ' ', '-', '>', ' ', 'b', 'o', 'o', 'l'] = false := by decide
example : returnsBoolText ['f', 'n', '(', 'f', 'n', '(', ')', ' ', '-', '>', ' ', 'b', 'o', 'o', 'l', ')'] = false := by decide

end Inj.Tie

#print axioms Inj.Tie.T_sig_returns_bool
#print axioms Inj.Tie.T_c10_gate_translated
