/-
  Tie/A64Emit.lean — bridges for the AArch64 bit-level emitters and the trampoline builder: the copy
  loops, the bit-extraction loops (`u64_to_bits`, `u8_to_bits`), `bool_array_to_u32`, `emit_movz` /
  `emit_movk` / `emit_br` / `emit_ret` (each = `A64.emitBits` of the bit-source table extracted from it) and
  their `_from_address` forms, `append_instruction`, and `generate_will_execute_jit_code_abs` as translated
  from the source on this run = `A64.tramp`.
-/
import InjModel.Generated.Fns
import InjModel.Lemmas.Rt
import InjModel.Model.A64
import InjModel.Tie.A64
open Inj.Rt
namespace Inj.Tie

/-- bit `i` of `n` as the translated loops compute it: `((n >> i) & 1) != 0` -/
def bitAt (n i : Nat) : Bool := (n / 2 ^ i) % 2 == 1

def bitsOf (n k : Nat) : List Bool := (List.range k).map (bitAt n)

theorem bitAt_eq_testBit (n i : Nat) : bitAt n i = n.testBit i := by
  rw [Nat.testBit_eq_decide_div_mod_eq]; rfl

theorem bitsOf_length (n k : Nat) : (bitsOf n k).length = k := by simp [bitsOf]

theorem bitsOf_succ (n k : Nat) : bitsOf n (k + 1) = bitsOf n k ++ [bitAt n k] := by
  simp [bitsOf, List.range_succ]

/-- body of `for (i, bit) in bits.iter_mut().enumerate() { *bit = ((n >> i) & 1) != 0 }` as translated -/
def bitStep (w : Nat) (mode : Mode) (n : Nat) : Nat → List Bool → Res (List Bool) := fun i st => do
  let t ← ushr w mode n i
  setIdx st i ((band t (1 : Nat)) != (0 : Nat))

theorem bitStep_ok (w : Nat) (mode : Mode) (n i : Nat) (st : List Bool) (hi : i < w) (hl : i < st.length) :
    bitStep w mode n i st = Res.ok (st.set i (bitAt n i)) := by
  unfold bitStep ushr setIdx
  rw [if_pos hi, Res.bind_ok, if_pos hl]
  unfold band bitAt
  rw [Nat.and_one_is_mod]
  rcases Nat.mod_two_eq_zero_or_one (n / 2 ^ i) with h | h <;> rw [h] <;> rfl

theorem bits_loop (w : Nat) (mode : Mode) (n : Nat) (bits : List Bool) :
    ∀ k, k ≤ w → k ≤ bits.length →
      forM' (List.range k) bits (bitStep w mode n) = Res.ok (bitsOf n k ++ bits.drop k) := by
  intro k
  induction k with
  | zero => intro _ _; rfl
  | succ k ih =>
    intro hw hl
    have hk : k < (bitsOf n k ++ List.drop k bits).length := by
      rw [List.length_append, bitsOf_length, List.length_drop]; omega
    rw [List.range_succ, forM'_append, ih (by omega) (by omega), Res.bind_ok]
    -- `forM'` over the one-element list `[k]`, unfolded
    show (bitStep w mode n k _ >>= fun s' => Res.ok s') = _
    rw [bitStep_ok w mode n k _ hw hk, Res.bind_ok, bitsOf_succ, List.set_append_right _ _ (by simp [bitsOf_length]),
      bitsOf_length, Nat.sub_self, List.drop_eq_getElem_cons hl, List.set_cons_zero, List.append_assoc]
    rfl

theorem bitAt_add (n s i : Nat) : bitAt n (s + i) = bitAt (n / 2 ^ s) i := by
  rw [bitAt_eq_testBit, bitAt_eq_testBit, Nat.testBit_div_two_pow, Nat.add_comm]

theorem natToBits_eq_bitsOf (n k : Nat) : A64.natToBits n k = bitsOf n k := by
  induction k generalizing n with
  | zero => rfl
  | succ k ih =>
    rw [A64.natToBits, ih]
    unfold bitsOf
    rw [List.range_succ_eq_map, List.map_cons, List.map_map]
    congr 1
    · simp [bitAt]
    · exact List.map_congr_left fun i _ => (by simpa [Nat.add_comm] using (bitAt_add n 1 i).symm)

/-- the bit-extraction functions (`u64_to_bits`, `u8_to_bits::<N>`): a zeroed array of `k` bits filled by the loop -/
theorem bits_run (w : Nat) (mode : Mode) (n k : Nat) (hk : k ≤ w) :
    (forM' (List.range k) (List.replicate k false) (bitStep w mode n) >>= fun b => pure b) = Res.ok (A64.natToBits n k) := by
  rw [bits_loop w mode n _ k hk (Nat.le_of_eq List.length_replicate.symm), Res.bind_ok, natToBits_eq_bitsOf, List.drop_replicate,
    Nat.sub_self, List.replicate_zero, List.append_nil]
  rfl

theorem T_a64_u64_to_bits (mode : Mode) (n : Nat) : GenA64L.u64_to_bits mode n = Res.ok (A64.natToBits n 64) :=
  bits_run 64 mode n 64 (Nat.le_refl _)

theorem T_a64_u8_to_bits_5 (mode : Mode) (n : Nat) : GenA64L.u8_to_bits_5 mode n = Res.ok (A64.natToBits n 5) :=
  bits_run 8 mode n 5 (by decide)

theorem T_a64_u8_to_bits_2 (mode : Mode) (n : Nat) : GenA64L.u8_to_bits_2 mode n = Res.ok (A64.natToBits n 2) :=
  bits_run 8 mode n 2 (by decide)

/-- `k` bits of a `w`-bit pattern from bit `start` (`k + start` in this order: as translated) -/
theorem slice_natToBits (x w start k : Nat) (h : start + k ≤ w) :
    slice (A64.natToBits x w) start (k + start) = Res.ok (A64.natToBits (x / 2 ^ start % 2 ^ k) k) := by
  rw [slice, natToBits_eq_bitsOf, natToBits_eq_bitsOf, if_pos ⟨Nat.le_add_left _ _, by rw [bitsOf_length]; omega⟩, Nat.add_sub_cancel, bitsOf,
    bitsOf, ← List.map_drop, ← List.map_take, List.range_eq_range', List.drop_range', List.range'_eq_map_range, ← List.map_take,
    List.take_range, Nat.min_eq_left (by omega), List.map_map]
  refine congrArg Res.ok (List.map_congr_left fun i hi => ?_)
  rw [bitAt_eq_testBit, Nat.testBit_mod_two_pow, decide_eq_true (List.mem_range.mp hi), Bool.true_and, ← bitAt_eq_testBit,
    ← bitAt_add]
  simp only [Function.comp_apply, Nat.zero_add, Nat.mul_one]

/-- body of the copy loop `for &bit in xs.iter() { code_bits[cur] = bit; cur += 1; }` as translated -/
def copyStep (mode : Mode) : Bool → List Bool × Nat → Res (List Bool × Nat) := fun x st => do
  let (code_bits, cur) := st
  let upd ← setIdx code_bits cur x
  let code_bits := upd
  let t ← uadd 64 mode cur (1 : Nat)
  let cur := t
  pure (code_bits, cur)

theorem copyStep_ok (mode : Mode) (x : Bool) (bits : List Bool) (cur : Nat) (hc : cur < bits.length)
    (hb : bits.length < 18446744073709551616) :
    copyStep mode x (bits, cur) = Res.ok (bits.set cur x, cur + 1) := by
  -- the `do` block of `copyStep`, desugared
  show (setIdx bits cur x >>= fun upd => uadd 64 mode cur 1 >>= fun t => pure (upd, t)) = _
  rw [setIdx, if_pos hc, Res.bind_ok, uadd_ok 64 _ _ _ (by omega), Res.bind_ok]
  rfl

/-- the copy loop writes `xs` over the buffer from the cursor on (not `Rt.forM'_append`, the loop over `xs ++ ys`) -/
theorem forM_append (mode : Mode) (xs : List Bool) :
    ∀ (bits : List Bool) (cur : Nat), cur + xs.length ≤ bits.length → bits.length < 18446744073709551616 →
    forM' xs (bits, cur) (copyStep mode) =
    Res.ok (bits.take cur ++ xs ++ bits.drop (cur + xs.length), cur + xs.length) := by
  induction xs with
  | nil => intro bits cur _ _; simp [forM']
  | cons x xs ih =>
    intro bits cur h hb
    simp only [List.length_cons] at h
    have hc : cur < bits.length := by omega
    rw [forM', copyStep_ok mode x bits cur hc hb, Res.bind_ok,
      ih _ _ (by rw [List.length_set]; omega) (by rw [List.length_set]; exact hb), List.drop_set_of_lt (by omega),
      List.take_succ_eq_append_getElem (by rw [List.length_set]; exact hc), List.take_set_of_le (Nat.le_refl _),
      List.getElem_set_self, List.length_cons, Nat.add_assoc, Nat.add_comm 1, List.append_assoc _ [x], List.singleton_append]

theorem forM_fill (mode : Mode) (pre xs : List Bool) (k : Nat) (h : xs.length ≤ k)
    (hb : pre.length + k < 18446744073709551616) :
    forM' xs (pre ++ List.replicate k false, pre.length) (copyStep mode) =
      Res.ok ((pre ++ xs) ++ List.replicate (k - xs.length) false, (pre ++ xs).length) := by
  have hl : (pre ++ List.replicate k false).length = pre.length + k := by rw [List.length_append, List.length_replicate]
  rw [forM_append mode xs _ _ (by rw [hl]; exact Nat.add_le_add_left h _) (by rw [hl]; exact hb), List.take_left' rfl,
    List.drop_length_add_append, List.drop_replicate, List.length_append]

theorem setIdx_fill (pre : List Bool) (k : Nat) (x : Bool) (hk : 1 ≤ k) :
    setIdx (pre ++ List.replicate k false) pre.length x = Res.ok ((pre ++ [x]) ++ List.replicate (k - 1) false) := by
  unfold setIdx
  rw [if_pos (by rw [List.length_append, List.length_replicate]; omega)]
  congr 1
  cases k with
  | zero => omega
  | succ k => simp [List.replicate_succ]

/-- one step of an emitter: a single store `code_bits[cur] = b; cur += 1;`, or a loop that copies `xs`
    (a counted loop storing a constant unfolds to the same stores as a copy of that many constants) -/
inductive EmitStep where
  | bit (b : Bool)
  | bits (xs : List Bool)

def EmitStep.val : EmitStep → List Bool
  | .bit b => [b]
  | .bits xs => xs

/-- the steps of an emitter run from a state (buffer, cursor), then `K`: continuation-passing, the shape of a
    translated `do` block (binds nested to the right), so that an emitter *is* `emitK` of its steps, by `rfl` -/
def emitK {α : Type} (mode : Mode) : List EmitStep → List Bool × Nat → (List Bool × Nat → Res α) → Res α
  | [], s, K => K s
  | .bit b :: fs, s, K => do
    let upd ← setIdx s.1 s.2 b
    let t ← uadd 64 mode s.2 (1 : Nat)
    emitK mode fs (upd, t) K
  | .bits xs :: fs, s, K => do
    let s' ← forM' xs s (copyStep mode)
    emitK mode fs s' K

theorem emitK_fill {α : Type} (mode : Mode) (fs : List EmitStep) :
    ∀ (pre : List Bool) (k : Nat) (K : List Bool × Nat → Res α),
      (fs.flatMap EmitStep.val).length ≤ k → pre.length + k < 18446744073709551616 →
      emitK mode fs (pre ++ List.replicate k false, pre.length) K =
        K ((pre ++ fs.flatMap EmitStep.val) ++ List.replicate (k - (fs.flatMap EmitStep.val).length) false,
           (pre ++ fs.flatMap EmitStep.val).length) := by
  induction fs with
  | nil => intro pre k K _ _; rw [emitK, List.flatMap_nil, List.append_nil, List.length_nil, Nat.sub_zero]
  | cons f fs ih =>
    intro pre k K hk hb
    rw [List.flatMap_cons, List.length_append] at hk
    have hstep : emitK mode (f :: fs) (pre ++ List.replicate k false, pre.length) K =
        emitK mode fs ((pre ++ f.val) ++ List.replicate (k - f.val.length) false, (pre ++ f.val).length) K := by
      cases f with
      | bit b =>
        have h1 : 1 ≤ k := Nat.le_trans (Nat.le_add_right 1 _) hk
        rw [emitK]
        dsimp only
        rw [setIdx_fill pre k b h1, Res.bind_ok, uadd_ok 64 mode _ _ (by omega), Res.bind_ok,
          EmitStep.val, List.length_append]
        rfl
      | bits xs =>
        rw [emitK, forM_fill mode pre xs k (Nat.le_trans (Nat.le_add_right _ _) hk) hb, Res.bind_ok]
        rfl
    rw [hstep, ih _ _ K (Nat.le_sub_of_add_le' hk) (by rw [List.length_append]; omega)]
    simp only [List.flatMap_cons, List.append_assoc, List.length_append, Nat.sub_sub]

/-- an emitter whose steps store all 32 bits of the zeroed word; what they store is given as `bits` with an equation,
    so that a caller's `rfl` computes it -/
theorem emitK_full (mode : Mode) (fs : List EmitStep) (bits : List Bool) (hb : fs.flatMap EmitStep.val = bits)
    (hl : bits.length = 32) :
    emitK mode fs (List.replicate 32 false, 0) (fun s => pure s.1) = Res.ok bits := by
  subst hb
  rw [show (List.replicate 32 false, 0) = (([] : List Bool) ++ List.replicate 32 false, ([] : List Bool).length) from rfl,
    emitK_fill mode fs [] 32 _ (by omega) (by decide), hl, Nat.sub_self, List.replicate_zero, List.append_nil]
  rfl

/-- an emitter that stores 31 bits by its steps and then the last bit `x`, without advancing the cursor -/
theorem emitK_word (mode : Mode) (fs : List EmitStep) (x : Bool) (bits : List Bool)
    (hb : (fs ++ [EmitStep.bit x]).flatMap EmitStep.val = bits) (hl : bits.length = 32) :
    emitK mode fs (List.replicate 32 false, 0) (fun s => setIdx s.1 s.2 x >>= fun upd => pure upd) = Res.ok bits := by
  subst hb
  have h : (fs.flatMap EmitStep.val).length = 31 := by simpa [EmitStep.val] using hl
  rw [show (List.replicate 32 false, 0) = (([] : List Bool) ++ List.replicate 32 false, ([] : List Bool).length) from rfl,
    emitK_fill mode fs [] 32 _ (by omega) (by decide)]
  dsimp only
  rw [setIdx_fill _ _ x (by omega), Res.bind_ok]
  simp [h, EmitStep.val]

/-- `emit_movz` and `emit_movk` differ in the two opcode bits `op` only -/
theorem emit_mov (mode : Mode) (op v : List Bool) (sf : Bool) (hw r : List Bool)
    (ho : op.length = 2) (hv : v.length = 16) (hh : hw.length = 2) (hr : r.length = 5) :
    emitK mode [.bits r, .bits v, .bits hw, .bits [true, false, true, false, false, true], .bits op]
        (List.replicate 32 false, 0) (fun s => setIdx s.1 s.2 sf >>= fun upd => pure upd) =
      Res.ok (r ++ (v ++ (hw ++ ([true, false, true, false, false, true] ++ (op ++ [sf]))))) :=
  emitK_word mode _ sf _ rfl (by simp [ho, hv, hh, hr])

/-! Each translated emitter, on the bits of its operands, yields `A64.emitBits` of the bit-source table the
    translator extracted from the same function.  Stores and table are compared by evaluation: for `emit_br` /
    `emit_ret` by the `rfl`s given to `emitK_full` / `emitK_word`, for `emit_movz` / `emit_movk` when `emit_mov …`
    is checked against the statement (the four `rfl`s there are the operands' lengths). -/

open Inj.Generated.Consts

/-- `emit_movz` as translated lays the fields out LSB first: Rd, imm16, hw, then the fixed opcode bits and `sf` -/
theorem T_a64_emit_movz (mode : Mode) (imm : Nat) (sf : Bool) (hw rd : Nat) :
    GenA64L.emit_movz mode (A64.natToBits imm 16) sf (A64.natToBits hw 2) (A64.natToBits rd 5) =
      Res.ok (A64.emitBits { reg := rd, imm := imm, hw := hw, sf := sf } emitMovz) :=
  emit_mov mode [false, true] _ sf _ _ rfl rfl rfl rfl

theorem T_a64_emit_movk (mode : Mode) (imm : Nat) (sf : Bool) (hw rd : Nat) :
    GenA64L.emit_movk mode (A64.natToBits imm 16) sf (A64.natToBits hw 2) (A64.natToBits rd 5) =
      Res.ok (A64.emitBits { reg := rd, imm := imm, hw := hw, sf := sf } emitMovk) :=
  emit_mov mode [true, true] _ sf _ _ rfl rfl rfl rfl

/-- the common part of `emit_movz_from_address` / `emit_movk_from_address`: the 16 bits of `address` from bit `start` -/
theorem addr_chunk {α : Type} (mode : Mode) (address start : Nat) (hs : start + 16 ≤ 64) (K : List Bool → Res α) :
    (do let address_bits ← GenA64L.u64_to_bits mode address
        let t_2 ← uadd 64 mode (16 : Nat) start
        let t_3 ← slice address_bits start t_2
        let value_bits ← copyInto (List.replicate 16 false) 0 (List.replicate 16 false).length t_3
        K value_bits) = K (A64.natToBits (A64.chunk address start) 16) := by
  simp only [T_a64_u64_to_bits, uadd_ok 64 mode 16 start (by omega), slice_natToBits address 64 start 16 hs,
    copyInto_all (List.replicate 16 false) (A64.natToBits _ 16) rfl, ok_bind]
  rfl

theorem T_a64_emit_movz_from_address (mode : Mode) (address start : Nat) (sf : Bool) (hw rd : Nat) (hs : start + 16 ≤ 64) :
    GenA64L.emit_movz_from_address mode address start sf (A64.natToBits hw 2) (A64.natToBits rd 5) =
      Res.ok (A64.emitBits { reg := rd, imm := A64.chunk address start, hw := hw, sf := sf } emitMovz) :=
  (addr_chunk mode address start hs _).trans (T_a64_emit_movz mode _ sf hw rd)

theorem T_a64_emit_movk_from_address (mode : Mode) (address start : Nat) (sf : Bool) (hw rd : Nat) (hs : start + 16 ≤ 64) :
    GenA64L.emit_movk_from_address mode address start sf (A64.natToBits hw 2) (A64.natToBits rd 5) =
      Res.ok (A64.emitBits { reg := rd, imm := A64.chunk address start, hw := hw, sf := sf } emitMovk) :=
  (addr_chunk mode address start hs _).trans (T_a64_emit_movk mode _ sf hw rd)

/-- `emit_br` as translated: 00000 Rn 00 0000 11111 00 0 0 1101011 (LSB first) -/
theorem T_a64_emit_br (mode : Mode) (rn : Nat) :
    GenA64L.emit_br mode (A64.natToBits rn 5) = Res.ok (A64.emitBits { reg := rn, imm := 0, hw := 0, sf := false } emitBr) :=
  (show GenA64L.emit_br mode (A64.natToBits rn 5) = emitK mode
      [.bits [false, false, false, false, false], .bits (A64.natToBits rn 5), .bit false, .bit false, .bits [false, false, false, false],
        .bits [true, true, true, true, true], .bits [false, false], .bit false, .bit false,
        .bits [true, true, false, true, false, true, true]]
      (List.replicate 32 false, 0) (fun s => pure s.1) from rfl).trans (emitK_full mode _ _ rfl rfl)

/-- `emit_ret` as translated: 00000 Rn 000000 11111 0 1 0 0 1101011 (LSB first) -/
theorem T_a64_emit_ret (mode : Mode) (rn : Nat) :
    GenA64L.emit_ret mode (A64.natToBits rn 5) = Res.ok (A64.emitBits { reg := rn, imm := 0, hw := 0, sf := false } emitRet) :=
  (show GenA64L.emit_ret mode (A64.natToBits rn 5) = emitK mode
      ([false, false, false, false, false].map .bit ++ .bits (A64.natToBits rn 5) ::
        [false, false, false, false, false, false, true, true, true, true, true, false, true, false, false, true, true, false, true, false, true].map .bit)
      (List.replicate 32 false, 0) (fun s => setIdx s.1 s.2 true >>= fun upd => pure upd) from rfl).trans
    (emitK_word mode _ true _ rfl rfl)

/-- body of `bits.iter().enumerate().fold(0, |acc, (i, &bit)| if bit { acc | (1 << i) } else { acc })` -/
def foldStep (mode : Mode) : Nat × Bool → Nat → Res Nat := fun it st => do
  let t ← (if it.2 then (do
      let t3 ← ushl 32 mode (1 : Nat) it.1
      pure (bor st t3)) else (do
      pure st))
  pure t

theorem foldStep_ok (mode : Mode) (k : Nat) (b : Bool) (acc : Nat) (hk : k < 32) (ha : acc < 2 ^ k) :
    foldStep mode (k, b) acc = Res.ok (acc + 2 ^ k * (if b then 1 else 0)) := by
  cases b
  · rfl
  · rw [foldStep]
    dsimp only
    rw [if_pos rfl, ushl_ok 32 mode 1 k 1 hk (by decide) hk, Nat.one_mul, Res.bind_ok, if_pos rfl, Nat.add_comm,
      Nat.two_pow_add_eq_or_of_lt ha 1, Nat.mul_one, Nat.or_comm]
    rfl

theorem fold_loop (mode : Mode) (bits : List Bool) :
    ∀ (k acc : Nat), acc < 2 ^ k → k + bits.length ≤ 32 →
      forM' ((List.zipIdx bits k).map (fun p => (p.2, p.1))) acc (foldStep mode) =
        Res.ok (acc + 2 ^ k * A64.bitsToNat bits) := by
  induction bits with
  | nil => intro k acc _ _; rfl
  | cons b bs ih =>
    intro k acc ha hl
    rw [List.length_cons] at hl
    have ha' : acc + 2 ^ k * (if b then 1 else 0) < 2 ^ (k + 1) := by
      rw [Nat.pow_succ]; split <;> omega
    rw [List.zipIdx_cons, List.map_cons, forM', foldStep_ok mode k b acc (by omega) ha, Res.bind_ok,
      ih (k + 1) _ ha' (by omega), A64.bitsToNat, Nat.pow_succ, Nat.mul_add, Nat.add_assoc, Nat.mul_assoc]

theorem T_a64_bool_array_to_u32 (mode : Mode) (bits : List Bool) (h : bits.length ≤ 32) :
    GenA64L.bool_array_to_u32 mode bits = Res.ok (A64.bitsToNat bits) := by
  have e : GenA64L.bool_array_to_u32 mode bits =
      (forM' ((List.zipIdx bits).map (fun p => (p.2, p.1))) 0 (foldStep mode)) := rfl
  rw [e, fold_loop mode bits 0 0 (by decide) (by omega), Nat.pow_zero, Nat.one_mul, Nat.zero_add]

theorem and255 (x : Nat) : castUU 8 (band x 255) = x % 256 := by
  show (x &&& 2 ^ 8 - 1) % 2 ^ 8 = x % 2 ^ 8
  rw [Nat.and_two_pow_sub_one_eq_mod, Nat.mod_mod]

theorem T_a64_append_instruction (mode : Mode) (code : List Nat) (w : Nat) :
    GenA64L.append_instruction mode code w = Res.ok (code ++ le32 w) := by
  simp only [GenA64L.append_instruction, ushr, Nat.reduceLT, if_true, ok_bind, and255, le32, Nat.reducePow, Res.pure_eq,
    List.append_assoc, List.cons_append, List.nil_append]

/-! `A64.movz …` is by definition `bitsToNat` of the bits laid out; what is left to check is that a table lays out 32 -/

theorem movz_u32 (mode : Mode) (imm : Nat) (sf : Bool) (hw rd : Nat) :
    GenA64L.bool_array_to_u32 mode (A64.emitBits { reg := rd, imm := imm, hw := hw, sf := sf } emitMovz) =
      Res.ok (A64.movz imm sf hw rd) :=
  T_a64_bool_array_to_u32 mode _ (Nat.le_of_eq rfl)

theorem movk_u32 (mode : Mode) (imm : Nat) (sf : Bool) (hw rd : Nat) :
    GenA64L.bool_array_to_u32 mode (A64.emitBits { reg := rd, imm := imm, hw := hw, sf := sf } emitMovk) =
      Res.ok (A64.movk imm sf hw rd) :=
  T_a64_bool_array_to_u32 mode _ (Nat.le_of_eq rfl)

theorem br_u32 (mode : Mode) (rn : Nat) :
    GenA64L.bool_array_to_u32 mode (A64.emitBits { reg := rn, imm := 0, hw := 0, sf := false } emitBr) = Res.ok (A64.br rn) :=
  T_a64_bool_array_to_u32 mode _ (Nat.le_of_eq rfl)

theorem ret_u32 (mode : Mode) (rn : Nat) :
    GenA64L.bool_array_to_u32 mode (A64.emitBits { reg := rn, imm := 0, hw := 0, sf := false } emitRet) = Res.ok (A64.ret rn) :=
  T_a64_bool_array_to_u32 mode _ (Nat.le_of_eq rfl)

/-- `generate_will_execute_jit_code_abs` with the configuration's `inject_asm_code` as a parameter: the Linux
    and the macOS translation are both this body -/
def trampWith (inject : List Nat → Nat → M Unit) (mode : Mode) (jit_ptr target : Nat) : M Unit := do
  let register_name ← GenA64L.u8_to_bits_5 mode (9 : Nat)
  let u8_to_bits_2 ← GenA64L.u8_to_bits_2 mode (0 : Nat)
  let movz ← GenA64L.emit_movz_from_address mode target (0 : Nat) true u8_to_bits_2 register_name
  let u8_to_bits_4 ← GenA64L.u8_to_bits_2 mode (1 : Nat)
  let movk1 ← GenA64L.emit_movk_from_address mode target (16 : Nat) true u8_to_bits_4 register_name
  let u8_to_bits_6 ← GenA64L.u8_to_bits_2 mode (2 : Nat)
  let movk2 ← GenA64L.emit_movk_from_address mode target (32 : Nat) true u8_to_bits_6 register_name
  let u8_to_bits_8 ← GenA64L.u8_to_bits_2 mode (3 : Nat)
  let movk3 ← GenA64L.emit_movk_from_address mode target (48 : Nat) true u8_to_bits_8 register_name
  let br ← GenA64L.emit_br mode register_name
  let asm_code := ([] : (List Nat))
  let bool_array_t_11 ← GenA64L.bool_array_to_u32 mode movz
  let asm_code ← GenA64L.append_instruction mode asm_code bool_array_t_11
  let bool_array_t_13 ← GenA64L.bool_array_to_u32 mode movk1
  let asm_code ← GenA64L.append_instruction mode asm_code bool_array_t_13
  let bool_array_t_15 ← GenA64L.bool_array_to_u32 mode movk2
  let asm_code ← GenA64L.append_instruction mode asm_code bool_array_t_15
  let bool_array_t_17 ← GenA64L.bool_array_to_u32 mode movk3
  let asm_code ← GenA64L.append_instruction mode asm_code bool_array_t_17
  let bool_array_t_19 ← GenA64L.bool_array_to_u32 mode br
  let asm_code ← GenA64L.append_instruction mode asm_code bool_array_t_19
  inject asm_code jit_ptr
  pure ()

/-- for every 64-bit fake address the bytes handed to `inject_asm_code` are the words of `A64.tramp fake`:
    `movz` and three `movk` building the address in x9, and `br x9` -/
theorem trampWith_run (inject : List Nat → Nat → M Unit) (mode : Mode) (jit fake : Nat) (os : Os) :
    run (trampWith inject mode jit fake) os = run (inject (A64.wordsToBytes (A64.tramp fake)) jit) os := by
  -- `[] ++`: the empty `asm_code` that the `simp only` below leaves in front
  have hm : A64.wordsToBytes (A64.tramp fake) = [] ++ le32 (A64.movz (A64.chunk fake 0) true 0 9) ++ le32 (A64.movk (A64.chunk fake 16) true 1 9) ++
      le32 (A64.movk (A64.chunk fake 32) true 2 9) ++ le32 (A64.movk (A64.chunk fake 48) true 3 9) ++ le32 (A64.br 9) := by
    simp [A64.wordsToBytes, A64.tramp, a64TrampSeq, A64.trampWord, a64ScratchReg]
  -- `Nat.reduceAdd`, `Nat.reduceLeDiff`: the side condition `start + 16 ≤ 64` of the `_from_address` bridges
  simp only [trampWith, T_a64_u8_to_bits_5, T_a64_u8_to_bits_2, T_a64_emit_movz_from_address, T_a64_emit_movk_from_address,
    Nat.reduceAdd, Nat.reduceLeDiff, T_a64_emit_br, movz_u32, movk_u32, br_u32, T_a64_append_instruction,
    run_bind_lift_ok']
  rw [hm, run_bind_unit]

theorem trampBytes_length (fake : Nat) : (A64.wordsToBytes (A64.tramp fake)).length = 20 := rfl

/-- `generate_will_execute_jit_code_abs(jit, fake)` as translated: the 20 bytes copied to the trampoline
    (and flushed, with the barrier) are exactly the words of `A64.tramp fake` — `movz` and three `movk` building
    the 64-bit address of the fake in x9 and `br x9` — for every 64-bit fake address. -/
theorem T_a64_tramp (mode : Mode) (jit fake : Nat) (os : Os) (hj : jit + 20 < 18446744073709551616) :
    run (GenA64L.generate_will_execute_jit_code_abs mode jit fake) os =
      (Res.ok (), { os with log := os.log ++
        [("copy_nonoverlapping", [Val.bs (A64.wordsToBytes (A64.tramp fake)), Val.n jit, Val.n 20]),
         ("__clear_cache", [Val.n jit, Val.n ((jit + 20 : Nat) : Int)]), ("asm", [])] }) := by
  show run (trampWith (GenA64L.inject_asm_code mode) mode jit fake) os = _
  rw [trampWith_run, T_a64_inject mode _ jit os (by rw [trampBytes_length]; exact hj), trampBytes_length]
  rfl

theorem T_a64_write_instruction (mode : Mode) (pre : List Nat) (k w : Nat) (hk : 4 ≤ k)
    (hl : pre.length + k < 18446744073709551616) :
    GenA64L.write_instruction mode (pre ++ List.replicate k 0) pre.length w =
      Res.ok ((pre ++ le32 w) ++ List.replicate (k - 4) 0, (pre ++ le32 w).length) := by
  rw [GenA64L.write_instruction]
  dsimp only
  rw [uadd_ok 64 mode _ 4 (by omega), Res.bind_ok, leBytes4, copyInto,
    if_pos ⟨Nat.le_add_right _ _, by rw [List.length_append, List.length_replicate]; omega,
      by rw [Nat.add_sub_cancel_left]; rfl⟩,
    Res.bind_ok, Res.bind_ok, List.take_left' rfl, List.drop_length_add_append, List.drop_replicate, List.length_append]
  rfl

/-- `generate_will_return_boolean_jit_code` with the configuration's `inject_asm_code` as a parameter -/
def boolStubWith (inject : List Nat → Nat → M Unit) (mode : Mode) (jit_ptr : Nat) (value : Bool) : M Unit := do
  let asm_code := (List.replicate 8 (0 : Nat))
  let cursor := (0 : Nat)
  let value_bits ← setIdx (List.replicate 16 false) (0 : Nat) value
  let u8_to_bits_2 ← GenA64L.u8_to_bits_2 mode (0 : Nat)
  let u8_to_bits_3 ← GenA64L.u8_to_bits_5 mode (0 : Nat)
  let movz ← GenA64L.emit_movz mode value_bits true u8_to_bits_2 u8_to_bits_3
  let ret ← GenA64L.emit_ret_x30 mode
  let bool_array_t_6 ← GenA64L.bool_array_to_u32 mode movz
  let (asm_code, cursor) ← GenA64L.write_instruction mode asm_code cursor bool_array_t_6
  let bool_array_t_8 ← GenA64L.bool_array_to_u32 mode ret
  let (asm_code, _) ← GenA64L.write_instruction mode asm_code cursor bool_array_t_8
  inject asm_code jit_ptr
  pure ()

/-- the bytes handed to `inject_asm_code` are `A64.boolStub v`: `movz x0, #v; ret x30` -/
theorem boolStubWith_run (inject : List Nat → Nat → M Unit) (mode : Mode) (jit : Nat) (v : Bool) (os : Os) :
    run (boolStubWith inject mode jit v) os = run (inject (A64.wordsToBytes (A64.boolStub v)) jit) os := by
  have hv : setIdx (List.replicate 16 false) 0 v = Res.ok (A64.natToBits (if v then 2 ^ a64BoolValueBit else 0) 16) := by
    cases v <;> rfl
  have hret : GenA64L.emit_ret_x30 mode = Res.ok (A64.emitBits { reg := 30, imm := 0, hw := 0, sf := false } emitRet) := by
    rw [GenA64L.emit_ret_x30, T_a64_u8_to_bits_5, Res.bind_ok, T_a64_emit_ret]
  have w1 : ∀ w, GenA64L.write_instruction mode (List.replicate 8 0) 0 w = Res.ok (le32 w ++ List.replicate 4 0, 4) :=
    fun w => T_a64_write_instruction mode [] 8 w (by decide) (by decide)
  have w2 : ∀ w w', GenA64L.write_instruction mode (le32 w ++ List.replicate 4 0) 4 w' = Res.ok (le32 w ++ le32 w', 8) :=
    fun w w' => T_a64_write_instruction mode (le32 w) 4 w' (Nat.le_refl 4) (by rw [le32_length]; decide)
  simp only [boolStubWith, hv, T_a64_u8_to_bits_2, T_a64_u8_to_bits_5, T_a64_emit_movz, hret, movz_u32, ret_u32, w1, w2,
    run_bind_lift_ok']
  exact run_bind_unit _ _

theorem boolStubBytes_length (v : Bool) : (A64.wordsToBytes (A64.boolStub v)).length = 8 := rfl

/-- `generate_will_return_boolean_jit_code(jit, v)` (AArch64) as translated: the 8 bytes copied to the
    trampoline and flushed are exactly `A64.boolStub v` — `movz x0, #v; ret x30`. -/
theorem T_a64_boolStub (mode : Mode) (jit : Nat) (v : Bool) (os : Os) (hj : jit + 8 < 18446744073709551616) :
    run (GenA64L.generate_will_return_boolean_jit_code mode jit v) os =
      (Res.ok (), { os with log := os.log ++
        [("copy_nonoverlapping", [Val.bs (A64.wordsToBytes (A64.boolStub v)), Val.n jit, Val.n 8]),
         ("__clear_cache", [Val.n jit, Val.n ((jit + 8 : Nat) : Int)]), ("asm", [])] }) := by
  show run (boolStubWith (GenA64L.inject_asm_code mode) mode jit v) os = _
  rw [boolStubWith_run, T_a64_inject mode _ jit os (by rw [boolStubBytes_length]; exact hj), boolStubBytes_length]
  rfl
end Inj.Tie

#print axioms Inj.Tie.T_a64_u64_to_bits
#print axioms Inj.Tie.T_a64_u8_to_bits_5
#print axioms Inj.Tie.T_a64_u8_to_bits_2
#print axioms Inj.Tie.T_a64_emit_movz
#print axioms Inj.Tie.T_a64_emit_movk
#print axioms Inj.Tie.T_a64_emit_movz_from_address
#print axioms Inj.Tie.T_a64_emit_movk_from_address
#print axioms Inj.Tie.T_a64_emit_br
#print axioms Inj.Tie.T_a64_bool_array_to_u32
#print axioms Inj.Tie.T_a64_append_instruction
#print axioms Inj.Tie.T_a64_tramp
#print axioms Inj.Tie.T_a64_emit_ret
#print axioms Inj.Tie.T_a64_write_instruction
#print axioms Inj.Tie.T_a64_boolStub

