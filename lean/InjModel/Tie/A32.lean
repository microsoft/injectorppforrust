/-
  Tie/A32.lean — bridges for the 32-bit ARM configuration (pointer width 32): the shared OS-facing
  functions and `PatchArm::replace_function_with_other_function` as translated from the source on this run
  = `A32.patch` (address written, bytes, guard), for ARM-state and Thumb-state sources at both alignments.
-/
import InjModel.Generated.Fns
import InjModel.Tie.X86
import InjModel.Lemmas.A32
import InjModel.Model.Machine
open Inj.Rt

namespace Inj.Tie

/-! The OS-facing functions are those of `Tie/X86` compiled for pointer width 32. -/

theorem T_a32_inject (mode : Mode) (bs : List Nat) (dest : Nat) (os : Os) (h : dest + bs.length < 4294967296) :
    run (GenA32.inject_asm_code mode bs dest) os =
      (Res.ok (), { os with log := os.log ++ [("copy_nonoverlapping", [Val.bs bs, Val.n dest, Val.n bs.length]),
                                               ("__clear_cache", [Val.n dest, Val.n ((dest + bs.length : Nat) : Int)])] }) := by
  simp only [GenA32.inject_asm_code, uadd_ok 32 mode dest bs.length h, GenA32.clear_cache, rt_step]

theorem T_a32_region (mode : Mode) (addr len : Nat) (h : addr + len + 4096 < 4294967296) (hl : 1 ≤ len) :
    GenA32.protected_region_size mode addr len 4096 = Res.ok (Machine.protectSpan addr len).2 := by
  have h' : addr + len + 4095 < 4294967296 := Nat.lt_of_succ_lt h
  have hle : pageStart addr ≤ pageStart (addr + len + 4095) :=
    pageStart_mono (Nat.le_add_right_of_le (Nat.le_add_right _ _))
  simp only [GenA32.protected_region_size, Nat.max_eq_left hl, usub_ok 32 mode 4096 1 (by decide) (by decide), ok_bind,
    uadd_ok 32 mode addr len (Nat.lt_of_le_of_lt (Nat.le_add_right _ _) h), uadd_ok 32 mode (addr + len) 4096 h,
    usub_ok 32 mode (addr + len + 4096) 1 (Nat.le_add_left _ _) h, Nat.add_sub_assoc (show 1 ≤ 4096 by decide) (addr + len),
    Nat.reduceSub, band_unot_page 32 addr (by decide) (by omega), band_unot_page 32 (addr + len + 4095) (by decide) h',
    usub_ok 32 mode _ _ hle (Nat.lt_of_le_of_lt (pageStart_le _) h'), protectSpan_snd]

theorem T_a32_mprotect (mode : Mode) (func len : Nat) (log : List (String × List Val)) (tail : List Val)
    (h : func + len + 4096 < 4294967296) (hl : 1 ≤ len) :
    run (GenA32.make_memory_writable_and_executable_linux mode func len)
        { answers := Val.n 4096 :: Val.n 0 :: tail, log := log } =
      (Res.ok (), { answers := tail, log := log ++
        [("sysconf", [Val.n 30]),
         ("mprotect", [Val.n ((Machine.protectSpan func len).1 : Nat), Val.n ((Machine.protectSpan func len).2 : Nat), Val.n 7])] }) := by
  simp only [GenA32.make_memory_writable_and_executable_linux, show castSU 32 (4096 : Int) = 4096 by decide,
    usub_ok 32 mode 4096 1 (by decide) (by decide), Nat.reduceSub, T_a32_region mode func len h hl,
    band_unot_page 32 func (by decide) (by omega), bne_self_eq_false, Bool.false_eq_true, if_false, rt_step]
  rfl  -- as in `T_x86_mprotect`: the protection evaluates to 7, `pageStart func` is `(protectSpan func len).1`

theorem T_a32_patch_function (mode : Mode) (func : Nat) (patch : List Nat) (log : List (String × List Val)) (tail : List Val)
    (h : func + patch.length + 4096 < 4294967296) (hl : 1 ≤ patch.length) :
    run (GenA32.patch_function mode func patch) { answers := Val.n 4096 :: Val.n 0 :: tail, log := log } =
      (Res.ok (), { answers := tail, log := log ++
        [("sysconf", [Val.n 30]),
         ("mprotect", [Val.n ((Machine.protectSpan func patch.length).1 : Nat), Val.n ((Machine.protectSpan func patch.length).2 : Nat), Val.n 7]),
         ("copy_nonoverlapping", [Val.bs patch, Val.n func, Val.n patch.length]),
         ("__clear_cache", [Val.n func, Val.n ((func + patch.length : Nat) : Int)])] }) := by
  simp only [GenA32.patch_function, GenA32.make_memory_writable_and_executable,
    T_a32_mprotect mode func patch.length log tail h hl, T_a32_inject mode patch func _ (by omega), rt_step]

/-- `GenA32.read_bytes` has the body of `GenX86.read_bytes` (there is no pointer arithmetic in it) -/
theorem T_a32_read_bytes (mode : Mode) (ptr len : Nat) (bs : List Nat) (rest : List Val) (log : List (String × List Val)) :
    run (GenA32.read_bytes mode ptr len) { answers := Val.bs bs :: rest, log := log } =
      (Res.ok bs, { answers := rest, log := log ++ [("read_bytes", [Val.n ptr, Val.n len])] }) :=
  T_x86_read_bytes mode ptr len bs rest log

/-- `rotate_right(2)` and the two byte stores of the NOP go through on a buffer of two or more bytes, as in the model -/
theorem a32_nop (l : List Nat) (a b : Nat) (h : 2 ≤ l.length) :
    rotateRight l 2 = Res.ok (A32.rotateRight l 2) ∧
    setIdx (A32.rotateRight l 2) 0 a = Res.ok ((A32.rotateRight l 2).set 0 a) ∧
    setIdx ((A32.rotateRight l 2).set 0 a) 1 b = Res.ok (((A32.rotateRight l 2).set 0 a).set 1 b) :=
  ⟨if_pos h, if_pos (by rw [A32.rotateRight_length]; exact Nat.lt_of_lt_of_le (by decide) h),
    if_pos (by rw [List.length_set, A32.rotateRight_length]; exact h)⟩

/-- what the 32-bit ARM patch logs: 12 bytes read at `addr`, `patch_function` there, the guard (no trampoline) -/
def a32Calls (addr : Nat) (bytes saved : List Nat) : List (String × List Val) :=
  [("read_bytes", [Val.n addr, Val.n 12]),
   ("sysconf", [Val.n 30]),
   ("mprotect", [Val.n ((Machine.protectSpan addr 12).1 : Nat), Val.n ((Machine.protectSpan addr 12).2 : Nat), Val.n 7]),
   ("copy_nonoverlapping", [Val.bs bytes, Val.n addr, Val.n 12]),
   ("__clear_cache", [Val.n addr, Val.n ((addr + 12 : Nat) : Int)]),
   ("PatchGuard::new", [Val.n addr, Val.bs saved, Val.n 12, Val.n 0, Val.n 0])]

/-- **`PatchArm::replace_function_with_other_function` as translated = `A32.patch`**, either state: 12 bytes
    are read and then written at `(A32.patch src target).addr` (the entry without its Thumb bit), the bytes are
    `(A32.patch src target).bytes`, and the guard records that address. -/
theorem a32_patch (mode : Mode) (src target : Nat) (saved : List Nat)
    (log : List (String × List Val)) (tail : List Val)
    (hs : src + 12 + 4096 < 4294967296) (ht : target < 4294967296) :
    run (GenA32.replace_function_with_other_function mode src target)
        { answers := Val.bs saved :: Val.n 4096 :: Val.n 0 :: tail, log := log } =
      (Res.ok (), { answers := tail,
                    log := log ++ a32Calls (A32.patch src target).addr (A32.patch src target).bytes saved }) := by
  have hlt : src < 4294967296 := by omega
  have hs' : src - 1 + 12 + 4096 < 4294967296 := by omega
  have hb : band src 1 = src % 2 := Nat.and_one_is_mod src
  have i0 : ∀ a b c : Nat, idx [a, b, c] 0 = Res.ok a := fun _ _ _ => rfl
  have i1 : ∀ a b c : Nat, idx [a, b, c] 1 = Res.ok b := fun _ _ _ => rfl
  have i2 : ∀ a b c : Nat, idx [a, b, c] 2 = Res.ok c := fun _ _ _ => rfl
  have hlen := A32.patch_length src target
  have hpf := fun a (h : a + 12 + 4096 < 4294967296) l =>
    T_a32_patch_function mode a (A32.patch src target).bytes l tail (by rw [hlen]; exact h) (by rw [hlen]; decide)
  rw [A32.patch_addr]
  rcases Nat.mod_two_eq_zero_or_one src with he | ho
  · have hm : le32 0xE51F9000 ++ (le32 0xE12FFF19 ++ le32 target) = (A32.patch src target).bytes := by
      rw [A32.patch_arm src target he, Nat.mod_eq_of_lt ht]
    simp only [GenA32.replace_function_with_other_function, hb, he, bne_self_eq_false, Bool.false_eq_true, if_false,
      Nat.zero_ne_one, T_a32_read_bytes, leBytes4, i0, i1, i2, copyInto_word0 (le32_length _), copyInto_word1 (le32_length _) (le32_length _),
      copyInto_word2 (le32_length _) (le32_length _) (le32_length _), hm, hpf src hs, hlen, a32Calls, rt_step]
    rfl
  · have hr : urem (src - 1) 4 = Res.ok ((src - 1) % 4) := if_neg (by decide)
    have h1 : 1 ≤ src := Nat.le_trans (Nat.le_of_eq ho.symm) (Nat.mod_le src 2)
    simp only [GenA32.replace_function_with_other_function, hb, ho, Nat.reduceBNe, if_true,
      usub_ok 32 mode src 1 h1 hlt, T_a32_read_bytes, leBytes4, i0, i1, i2, copyInto_word0 (le32_length _),
      copyInto_word1 (le32_length _) (le32_length _), copyInto_word2 (le32_length _) (le32_length _) (le32_length _), hr, rt_step]
    by_cases ca : (src - 1) % 4 = 0
    · have hm : le32 0x47384F00 ++ (le32 target ++ le32 0) = (A32.patch src target).bytes := by
        rw [A32.patch_thumb0 src target ho ca, Nat.mod_eq_of_lt ht]
      simp only [ca, bne_self_eq_false, Bool.false_eq_true, if_false, hm, hpf (src - 1) hs', hlen, a32Calls, rt_step]
      rfl
    · obtain ⟨r1, r2, r3⟩ := a32_nop (le32 0x47384F00 ++ (le32 target ++ le32 0)) 0xC0 0x46
        (Nat.le_add_left 2 10)  -- the length of the three words evaluates to 12
      have hm : ((A32.rotateRight (le32 0x47384F00 ++ (le32 target ++ le32 0)) 2).set 0 0xC0).set 1 0x46 =
          (A32.patch src target).bytes := by
        rw [A32.patch_thumb2 src target ho ca, Nat.mod_eq_of_lt ht, A32.nop_rotated]
      simp only [bne_iff_ne.mpr ca, if_true, r1, r2, r3, hm, hpf (src - 1) hs', hlen, a32Calls, rt_step]
      rfl

/-- ARM-state source (even address): the translated function reads 12 bytes at `src`, patches `src`
    with exactly `(A32.patch src target).bytes` and builds the guard (src, saved, 12, null, 0). -/
theorem T_a32_patch_arm (mode : Mode) (src target : Nat) (saved : List Nat)
    (log : List (String × List Val)) (tail : List Val)
    (hs : src + 12 + 4096 < 4294967296) (ht : target < 4294967296) (he : src % 2 = 0) :
    run (GenA32.replace_function_with_other_function mode src target)
        { answers := Val.bs saved :: Val.n 4096 :: Val.n 0 :: tail, log := log } =
      (Res.ok (), { answers := tail, log := log ++
        [("read_bytes", [Val.n src, Val.n 12]),
         ("sysconf", [Val.n 30]),
         ("mprotect", [Val.n ((Machine.protectSpan src 12).1 : Nat), Val.n ((Machine.protectSpan src 12).2 : Nat), Val.n 7]),
         ("copy_nonoverlapping", [Val.bs (A32.patch src target).bytes, Val.n src, Val.n 12]),
         ("__clear_cache", [Val.n src, Val.n ((src + 12 : Nat) : Int)]),
         ("PatchGuard::new", [Val.n src, Val.bs saved, Val.n 12, Val.n 0, Val.n 0])] }) := by
  have h := a32_patch mode src target saved log tail hs ht
  rwa [A32.patch_addr, if_neg (by rw [he]; decide), a32Calls] at h

/-- Thumb-state source (odd address), both alignments of the stripped entry: 12 bytes read and
    written at `src - 1`, the bytes are exactly `(A32.patch src target).bytes` (rotated by one halfword
    behind a NOP when the entry is 2 mod 4), guard (src - 1, saved, 12, null, 0). -/
theorem T_a32_patch_thumb (mode : Mode) (src target : Nat) (saved : List Nat)
    (log : List (String × List Val)) (tail : List Val)
    (hs : src + 12 + 4096 < 4294967296) (ht : target < 4294967296) (ho : src % 2 = 1) :
    run (GenA32.replace_function_with_other_function mode src target)
        { answers := Val.bs saved :: Val.n 4096 :: Val.n 0 :: tail, log := log } =
      (Res.ok (), { answers := tail, log := log ++
        [("read_bytes", [Val.n ((src - 1 : Nat) : Int), Val.n 12]),
         ("sysconf", [Val.n 30]),
         ("mprotect", [Val.n ((Machine.protectSpan (src - 1) 12).1 : Nat), Val.n ((Machine.protectSpan (src - 1) 12).2 : Nat), Val.n 7]),
         ("copy_nonoverlapping", [Val.bs (A32.patch src target).bytes, Val.n ((src - 1 : Nat) : Int), Val.n 12]),
         ("__clear_cache", [Val.n ((src - 1 : Nat) : Int), Val.n ((src - 1 + 12 : Nat) : Int)]),
         ("PatchGuard::new", [Val.n ((src - 1 : Nat) : Int), Val.bs saved, Val.n 12, Val.n 0, Val.n 0])] }) := by
  have h := a32_patch mode src target saved log tail hs ht
  rwa [A32.patch_addr, if_pos ho, a32Calls] at h
end Inj.Tie

#print axioms Inj.Tie.T_a32_inject
#print axioms Inj.Tie.T_a32_region
#print axioms Inj.Tie.T_a32_mprotect
#print axioms Inj.Tie.T_a32_patch_function
#print axioms Inj.Tie.T_a32_read_bytes
#print axioms Inj.Tie.T_a32_patch_arm
#print axioms Inj.Tie.T_a32_patch_thumb
