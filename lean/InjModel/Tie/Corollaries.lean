/-
  Tie/Corollaries.lean — C03 / C12 / C17 read off the translated code: from the exact OS-call
  sequences proved in Tie/Install, Tie/A64Install and Tie/A32, what the translated installation and
  restoration write, map, unmap and flush.
-/
import InjModel.Tie.Install
import InjModel.Tie.A64Install
import InjModel.Tie.A32
open Inj.Rt Inj.Alloc

namespace Inj.Tie

/-- (destination, length) of every raw copy in a log -/
def writesOf : List (String × List Val) → List (Int × Int)
  | [] => []
  | ("copy_nonoverlapping", [Val.bs _, Val.n d, Val.n n]) :: es => (d, n) :: writesOf es
  | _ :: es => writesOf es

/-- every raw copy is immediately followed by a cache flush of exactly the range it wrote (the
    arm64 barrier `asm` may follow the flush) -/
def flushedAfterWrite : List (String × List Val) → Bool
  | [] => true
  | ("copy_nonoverlapping", [Val.bs _, Val.n d, Val.n n]) :: ("__clear_cache", [Val.n lo, Val.n hi]) :: es =>
      (lo == d && hi == d + n) && flushedAfterWrite es
  | ("copy_nonoverlapping", _) :: _ => false
  | _ :: es => flushedAfterWrite es

/-- the argument lists of the calls of `name` in a log, in order -/
def callsOf (name : String) : List (String × List Val) → List (List Val)
  | [] => []
  | (n, args) :: es => if n == name then args :: callsOf name es else callsOf name es

/-- what a run appended to the log it started with -/
def delta {α : Type} (r : Res α × Os) (log : List (String × List Val)) : List (String × List Val) := r.2.log.drop log.length

theorem delta_append {α : Type} (v : Res α) (a : List Val) (log l : List (String × List Val)) :
    delta (v, { answers := a, log := log ++ l }) log = l := List.drop_left

/-! What the three folds do with the call at the head of a log.  The side conditions read `¬ _ = _`, not `_ ≠ _`:
in the second form `simp` discharges them by evaluating the string comparison, which is slow.  (Under `simp only`
they take `String.reduceEq` and `not_false_eq_true`.) -/

@[simp] theorem writesOf_nil : writesOf [] = [] := rfl

@[simp] theorem writesOf_copy {b d n es} :
    writesOf (("copy_nonoverlapping", [Val.bs b, Val.n d, Val.n n]) :: es) = (d, n) :: writesOf es := by
  rw [writesOf]

@[simp] theorem writesOf_other {name args es} (h : ¬name = "copy_nonoverlapping") :
    writesOf ((name, args) :: es) = writesOf es := by
  rw [writesOf]
  exact fun _ _ _ e => h (congrArg Prod.fst e)

@[simp] theorem flushedAfterWrite_nil : flushedAfterWrite [] = true := rfl

@[simp] theorem flushedAfterWrite_copy_flush {b d n es} :
    flushedAfterWrite (("copy_nonoverlapping", [Val.bs b, Val.n d, Val.n n]) ::
      ("__clear_cache", [Val.n d, Val.n (d + n)]) :: es) = flushedAfterWrite es := by
  rw [flushedAfterWrite, beq_self_eq_true, beq_self_eq_true]
  rfl

@[simp] theorem flushedAfterWrite_other {name args es} (h : ¬name = "copy_nonoverlapping") :
    flushedAfterWrite ((name, args) :: es) = flushedAfterWrite es := by
  rw [flushedAfterWrite]
  · exact fun _ _ _ _ _ _ e _ => h (congrArg Prod.fst e)
  · exact fun _ e => h (congrArg Prod.fst e)

@[simp] theorem callsOf_nil {name} : callsOf name [] = [] := rfl

@[simp] theorem callsOf_same {name args es} :
    callsOf name ((name, args) :: es) = args :: callsOf name es := by
  rw [callsOf, beq_self_eq_true, if_pos rfl]

@[simp] theorem callsOf_other {name n args es} (h : ¬n = name) :
    callsOf name ((n, args) :: es) = callsOf name es := by
  rw [callsOf, if_neg (by simpa using h)]

theorem writesOf_encEv_append (es : List AEvent) (l : List (String × List Val)) :
    writesOf (es.map encEv ++ l) = writesOf l := by
  induction es with
  | nil => rfl
  | cons e es ih => cases e <;> simpa [encEv] using ih

theorem flushedAfterWrite_encEv_append (es : List AEvent) (l : List (String × List Val)) :
    flushedAfterWrite (es.map encEv ++ l) = flushedAfterWrite l := by
  induction es with
  | nil => rfl
  | cons e es ih => cases e <;> simpa [encEv] using ih

theorem callsOf_mprotect_encEv (es : List AEvent) : callsOf "mprotect" (es.map encEv) = [] := by
  induction es with
  | nil => rfl
  | cons e es ih => cases e <;> simpa [encEv] using ih

/-- **C03 and C17 for every log `x86_install` allows**: the only bytes written are the payload code at `jit` and
    the entry branch at `func`, each followed at once by a flush of exactly its range -/
theorem installCalls_writes (evs : List AEvent) (func jit jsz : Nat) (code br saved : List Nat) :
    writesOf ([("sysconf", [Val.n 30])] ++ evs.map encEv ++ installCalls func jit jsz code br saved) =
      [((jit : Int), (code.length : Int)), ((func : Int), (br.length : Int))] ∧
    flushedAfterWrite ([("sysconf", [Val.n 30])] ++ evs.map encEv ++ installCalls func jit jsz code br saved) = true := by
  simp [writesOf_encEv_append, flushedAfterWrite_encEv_append, installCalls]

/-- **C03 on the translated x86-64 installation**: the only bytes it writes are the trampoline code
    at `jit` (5 or 12 bytes) and the entry branch at `func` (5 or 12 bytes) — nothing else. -/
theorem T_c03_x86_install (mode : Mode) (func fake jit : Nat) (code br saved : List Nat)
    (log : List (String × List Val)) (tail : List Val)
    (hf : func + 134217728 + 4096 < 18446744073709551616) (hk : fake < 18446744073709551616)
    (hj : jit < 18446744073709551615) (hnear : Alloc.absDiff jit func < 134217728)
    (hcode : X86.genBranch mode jit fake = Res.ok code) (hbr : X86.genBranch mode func jit = Res.ok br) :
    writesOf (delta (run (GenX86.replace_function_with_other_function mode 2 func fake)
        { answers := Val.n (4096 : Nat) :: Val.n jit :: Val.bs saved :: Val.n 4096 :: Val.n 0 :: tail, log := log }) log) =
      [((jit : Int), (code.length : Int)), ((func : Int), (br.length : Int))] ∧
    (code.length = 5 ∨ code.length = 12) ∧ (br.length = 5 ∨ br.length = 12) := by
  rw [T_x86_install_exec mode func fake jit 4096 code br saved log tail hf hk hj rfl hnear hcode hbr, delta_append]
  exact ⟨(installCalls_writes [AEvent.mmap _ _ (some jit)] func jit 12 code br saved).1,
    X86.genBranch_length hcode, X86.genBranch_length hbr⟩

/-- **C17 on the translated x86-64 installation**: each of its writes is followed at once by a flush
    of exactly the written range. -/
theorem T_c17_x86_install (mode : Mode) (func fake jit : Nat) (code br saved : List Nat)
    (log : List (String × List Val)) (tail : List Val)
    (hf : func + 134217728 + 4096 < 18446744073709551616) (hk : fake < 18446744073709551616)
    (hj : jit < 18446744073709551615) (hnear : Alloc.absDiff jit func < 134217728)
    (hcode : X86.genBranch mode jit fake = Res.ok code) (hbr : X86.genBranch mode func jit = Res.ok br) :
    flushedAfterWrite (delta (run (GenX86.replace_function_with_other_function mode 2 func fake)
        { answers := Val.n (4096 : Nat) :: Val.n jit :: Val.bs saved :: Val.n 4096 :: Val.n 0 :: tail, log := log }) log) = true := by
  rw [T_x86_install_exec mode func fake jit 4096 code br saved log tail hf hk hj rfl hnear hcode hbr, delta_append]
  exact (installCalls_writes [AEvent.mmap _ _ (some jit)] func jit 12 code br saved).2

/-- **C12 on the translated code**: the installation maps exactly one region (answered with `jit`) and
    unmaps nothing; the restoration of that guard unmaps exactly `(jit, jit_size)`, once. -/
theorem T_c12_x86 (mode : Mode) (func fake jit : Nat) (code br saved : List Nat)
    (log log2 : List (String × List Val)) (tail tail2 : List Val)
    (hf : func + 134217728 + 4096 < 18446744073709551616) (hk : fake < 18446744073709551616)
    (hj : jit < 18446744073709551615) (hj0 : jit ≠ 0) (hnear : Alloc.absDiff jit func < 134217728)
    (hcode : X86.genBranch mode jit fake = Res.ok code) (hbr : X86.genBranch mode func jit = Res.ok br)
    (hs : br.length ≤ saved.length) :
    (callsOf "mmap" (delta (run (GenX86.replace_function_with_other_function mode 2 func fake)
        { answers := Val.n (4096 : Nat) :: Val.n jit :: Val.bs saved :: Val.n 4096 :: Val.n 0 :: tail, log := log }) log)).length = 1 ∧
    callsOf "munmap" (delta (run (GenX86.replace_function_with_other_function mode 2 func fake)
        { answers := Val.n (4096 : Nat) :: Val.n jit :: Val.bs saved :: Val.n 4096 :: Val.n 0 :: tail, log := log }) log) = [] ∧
    callsOf "munmap" (delta (run (GenX86.drop mode func saved br.length jit 12)
        { answers := Val.n 4096 :: Val.n 0 :: tail2, log := log2 }) log2) = [[Val.n jit, Val.n 12]] := by
  have hlen := X86.genBranch_length hbr
  rw [T_x86_install_exec mode func fake jit 4096 code br saved log tail hf hk hj rfl hnear hcode hbr,
    T_x86_drop mode func saved br.length jit 12 log2 tail2 (by omega) (by omega) hs, delta_append, delta_append]
  simp [dropCalls, hj0]

/-- **C03 / C17 on the translated restoration** (`PatchGuard::drop`): it writes exactly the saved bytes
    back at `func` (nothing else), and flushes that range right after the write. -/
theorem T_c03_c17_x86_drop (mode : Mode) (func : Nat) (saved : List Nat) (psz jit jsz : Nat)
    (log : List (String × List Val)) (tail : List Val)
    (h : func + psz + 4096 < 18446744073709551616) (hl : 1 ≤ psz) (hs : psz ≤ saved.length) :
    writesOf (delta (run (GenX86.drop mode func saved psz jit jsz) { answers := Val.n 4096 :: Val.n 0 :: tail, log := log }) log) =
      [((func : Int), (psz : Int))] ∧
    flushedAfterWrite (delta (run (GenX86.drop mode func saved psz jit jsz) { answers := Val.n 4096 :: Val.n 0 :: tail, log := log }) log) = true := by
  rw [T_x86_drop mode func saved psz jit jsz log tail h hl hs, delta_append]
  unfold dropCalls
  split <;> simp

/-- **C03 / C17 on the translated AArch64 installation**: the writes are the 20 trampoline bytes at `jit`
    and the 12 entry bytes at `func`; each is followed at once by a flush of exactly its range. -/
theorem T_c03_c17_a64_install (mode : Mode) (func fake jit : Nat) (ws saved : List Nat)
    (log : List (String × List Val)) (tail : List Val)
    (hf : func + 134217728 + 8192 < 9223372036854775808) (hj : jit < 9223372036854775808)
    (hnear : Alloc.absDiff jit func < 134217728) (hws : A64.entryLinux func jit = Res.ok ws) :
    writesOf (delta (run (GenA64L.replace_function_with_other_function mode 2 func fake)
        { answers := Val.bs saved :: Val.n (4096 : Nat) :: Val.n jit :: Val.n 4096 :: Val.n 0 :: tail, log := log }) log) =
      [((jit : Int), 20), ((func : Int), 12)] ∧
    flushedAfterWrite (delta (run (GenA64L.replace_function_with_other_function mode 2 func fake)
        { answers := Val.bs saved :: Val.n (4096 : Nat) :: Val.n jit :: Val.n 4096 :: Val.n 0 :: tail, log := log }) log) = true := by
  rw [T_a64_install_exec mode func fake jit ws saved log tail hf hj hnear hws, delta_append]
  simp

theorem a32Calls_writes (addr : Nat) (bytes saved : List Nat) :
    writesOf (a32Calls addr bytes saved) = [((addr : Int), 12)] ∧ flushedAfterWrite (a32Calls addr bytes saved) = true := by
  simp [a32Calls]

/-- **C03 / C16 on the translated 32-bit ARM patch** (ARM-state source): one write, of exactly 12 bytes,
    at `src`, flushed at once. -/
theorem T_c03_a32_arm (mode : Mode) (src target : Nat) (saved : List Nat)
    (log : List (String × List Val)) (tail : List Val)
    (hs : src + 12 + 4096 < 4294967296) (ht : target < 4294967296) (he : src % 2 = 0) :
    writesOf (delta (run (GenA32.replace_function_with_other_function mode src target)
        { answers := Val.bs saved :: Val.n 4096 :: Val.n 0 :: tail, log := log }) log) = [((src : Int), 12)] ∧
    flushedAfterWrite (delta (run (GenA32.replace_function_with_other_function mode src target)
        { answers := Val.bs saved :: Val.n 4096 :: Val.n 0 :: tail, log := log }) log) = true := by
  rw [a32_patch mode src target saved log tail hs ht, delta_append, A32.patch_addr, if_neg (by omega)]
  exact a32Calls_writes src _ saved

/-- the same for a Thumb-state source at either alignment: one 12-byte write at `src - 1` -/
theorem T_c03_a32_thumb (mode : Mode) (src target : Nat) (saved : List Nat)
    (log : List (String × List Val)) (tail : List Val)
    (hs : src + 12 + 4096 < 4294967296) (ht : target < 4294967296) (ho : src % 2 = 1) :
    writesOf (delta (run (GenA32.replace_function_with_other_function mode src target)
        { answers := Val.bs saved :: Val.n 4096 :: Val.n 0 :: tail, log := log }) log) = [(((src - 1 : Nat) : Int), 12)] ∧
    flushedAfterWrite (delta (run (GenA32.replace_function_with_other_function mode src target)
        { answers := Val.bs saved :: Val.n 4096 :: Val.n 0 :: tail, log := log }) log) = true := by
  rw [a32_patch mode src target saved log tail hs ht, delta_append, A32.patch_addr, if_pos ho]
  exact a32Calls_writes (src - 1) _ saved
end Inj.Tie
#print axioms Inj.Tie.T_c03_c17_x86_drop
#print axioms Inj.Tie.T_c03_c17_a64_install
#print axioms Inj.Tie.T_c03_a32_arm
#print axioms Inj.Tie.T_c03_a32_thumb
#print axioms Inj.Tie.T_c03_x86_install
#print axioms Inj.Tie.T_c17_x86_install
#print axioms Inj.Tie.T_c12_x86
