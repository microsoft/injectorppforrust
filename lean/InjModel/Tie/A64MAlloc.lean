/-
  Tie/A64MAlloc.lean — the macOS / AArch64 allocator (the same source function translated in the macOS
  configuration: `MAP_JIT`, search range 2 GiB) = `Alloc.search` with range 2^31, for every target with
  `src + 2^31 + page < 2^64`, every page size and every script of kernel answers; hence C11's clauses for
  macOS on the translated code.
-/
import InjModel.Tie.Alloc
open Inj.Rt Inj.Alloc

namespace Inj.Tie

def allocFlagsM : Int := Rt.sbor 32 (Rt.sbor 32 (32 : Int) (2 : Int)) (2048 : Int)

def encEvM : AEvent → String × List Val
  | AEvent.mmap hint len _ => ("mmap", [Val.n hint, Val.n len, Val.n allocProt, Val.n allocFlagsM, Val.n (-1), Val.n 0])
  | AEvent.munmap a len => ("munmap", [Val.n a, Val.n len])

theorem encEvM_eq : encEvM = encEvWith allocFlagsM := rfl

/-- as `a64_alloc_loop_eq` -/
theorem a64m_alloc_loop_eq : @GenA64M.allocate_jit_memory_unix_loop1 = @GenX86.allocate_jit_memory_unix_loop1 := by
  delta GenA64M.allocate_jit_memory_unix_loop1 GenX86.allocate_jit_memory_unix_loop1
  rfl

theorem a64m_alloc_eq : @GenA64M.allocate_jit_memory_unix = allocUnix allocFlagsM 2147483648 := by
  delta GenA64M.allocate_jit_memory_unix allocUnix
  rw [a64m_alloc_loop_eq]
  rfl

theorem T_a64m_alloc_loop (mode : Mode) (src size page : Nat) (h : src + 2147483648 + page < 18446744073709551616) :
    ∀ (answers : List (Option Nat)), (∀ x, some x ∈ answers → x < 18446744073709551615) →
    ∀ (start : Nat) (log : List (String × List Val)) (tail : List Val),
      (loop src 2147483648 page size answers start).1 ≠ AResult.stuck →
      ∃ st', run (GenA64M.allocate_jit_memory_unix_loop1 mode size allocFlagsM 2147483648 src page (answers.length + 1) start)
          { answers := answers.map encAns ++ tail, log := log } =
        (Res.ok (resOf (loop src 2147483648 page size answers start).1, st'),
         { answers := (answers.drop (mmapCount (loop src 2147483648 page size answers start).2)).map encAns ++ tail,
           log := log ++ (loop src 2147483648 page size answers start).2.map encEvM }) := by
  rw [a64m_alloc_loop_eq, encEvM_eq]
  exact alloc_loop mode allocFlagsM src 2147483648 page size h

/-- `T_alloc` in the macOS configuration: `MAP_JIT` among the flags, search range ±2 GiB -/
theorem T_a64m_alloc (mode : Mode) (src size page : Nat) (h : src + 2147483648 + page < 18446744073709551616)
    (answers : List (Option Nat)) (hA : ∀ x, some x ∈ answers → x < 18446744073709551615)
    (log : List (String × List Val)) (tail : List Val)
    (hns : (search src 2147483648 page size answers).1 ≠ AResult.stuck) :
    run (GenA64M.allocate_jit_memory_unix mode (answers.length + 1) src size)
        { answers := Val.n page :: (answers.map encAns ++ tail), log := log } =
      ((match (search src 2147483648 page size answers).1 with
        | AResult.ok a => Res.ok a
        | _ => Res.panic "Failed to allocate JIT memory within ±m"),
       { answers := (answers.drop (mmapCount (search src 2147483648 page size answers).2)).map encAns ++ tail,
         log := log ++ [("sysconf", [Val.n 30])] ++ (search src 2147483648 page size answers).2.map encEvM }) := by
  rw [a64m_alloc_eq, encEvM_eq]
  exact alloc_run mode allocFlagsM src 2147483648 page size h answers hA log tail hns

/-- C11 read off the translated code: whatever the kernel answers, an address the translated
    allocator returns is strictly within ±2 GiB (the macOS search range) of the target. -/
theorem T_a64m_alloc_sound (mode : Mode) (src size page : Nat) (h : src + 2147483648 + page < 18446744073709551616)
    (answers : List (Option Nat)) (hA : ∀ x, some x ∈ answers → x < 18446744073709551615)
    (log : List (String × List Val)) (tail : List Val)
    (hns : (search src 2147483648 page size answers).1 ≠ AResult.stuck) (a : Nat)
    (hr : (run (GenA64M.allocate_jit_memory_unix mode (answers.length + 1) src size)
        { answers := Val.n page :: (answers.map encAns ++ tail), log := log }).1 = Res.ok a) :
    Alloc.absDiff a src < 2147483648 := by
  rw [a64m_alloc_eq] at hr
  exact alloc_sound mode allocFlagsM src 2147483648 page size h answers hA log tail hns a hr

end Inj.Tie
#print axioms Inj.Tie.T_a64m_alloc_loop
#print axioms Inj.Tie.T_a64m_alloc
#print axioms Inj.Tie.T_a64m_alloc_sound
