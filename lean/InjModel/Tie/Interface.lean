/-
  Tie/Interface.lean — the interface layer (`injector.rs`, `verifier.rs`, `func_ptr.rs`, `internal.rs`) as
  translated: each function is its sequence of effects on the object graph (the lock, the guard and verifier
  vectors, the per-site counter, the back end), with the real control flow on the signature texts.  The
  theorems state, for every input and oracle script, what each function does and in which order — the facts
  the models of C02 / C04 / C05 / C06 / C07 / C09 / C10 take from the source.
-/
import InjModel.Generated.Fns
import InjModel.Generated.Layout
import InjModel.Lemmas.Rt
import InjModel.Tie.SigText
open Inj.Rt Inj.Sig

namespace Inj.Tie

abbrev Lib := (List Unit) × (List Unit) × Unit

def logs (os : Os) (l : List (String × List Val)) : Os := { os with log := os.log ++ l }

def installEffects (func target : Nat) : List (String × List Val) :=
  [("replace_function_with_other_function", [Val.n (Int.ofNat func), Val.n (Int.ofNat target)]),
   ("self.lib.guards.push", [Val.n 0])]

theorem T_if_execute_guard (mode : Mode) (func target : Nat) (os : Os) :
    run (GenIf.WhenCalled_will_execute_guard mode func target) os =
      (Res.ok (), logs os [("replace_function_with_other_function", [Val.n (Int.ofNat func), Val.n (Int.ofNat target)])]) := by
  simp only [GenIf.WhenCalled_will_execute_guard, logs, rt_step]

theorem T_if_will_execute_raw_unchecked (mode : Mode) (lib : Lib) (func : Nat) (expected : List Char)
    (target : Nat × List Char) (os : Os) :
    run (GenIf.WhenCalledBuilder_will_execute_raw_unchecked mode lib func expected target) os =
      (Res.ok (), logs os (installEffects func target.1)) := by
  simp only [GenIf.WhenCalledBuilder_will_execute_raw_unchecked, T_if_execute_guard, logs, installEffects, rt_step]

/-- **the gate precedes the patch** (`will_execute_raw`): a replacement whose recorded signature differs
    from the target's is refused by a panic before any effect; otherwise the back end is called once and the
    guard is kept -/
theorem T_if_will_execute_raw (mode : Mode) (lib : Lib) (func : Nat) (expected : List Char)
    (target : Nat × List Char) (os : Os) :
    run (GenIf.WhenCalledBuilder_will_execute_raw mode lib func expected target) os =
      if target.2 != expected then (Res.panic "Signature mismatch: expected :? but go", os)
      else (Res.ok (), logs os (installEffects func target.1)) := by
  rw [GenIf.WhenCalledBuilder_will_execute_raw]
  split
  · rfl
  · exact T_if_will_execute_raw_unchecked mode lib func expected target os

/-- the async builder's two entry points are the synchronous ones under other names -/
theorem T_if_will_return_async (mode : Mode) (lib : Lib) (func : Nat) (expected : List Char)
    (target : Nat × List Char) (os : Os) :
    run (GenIf.WhenCalledBuilderAsync_will_return_async mode lib func expected target) os =
      if target.2 != expected then (Res.panic "Signature mismatch: expected :? but go", os)
      else (Res.ok (), logs os (installEffects func target.1)) :=
  T_if_will_execute_raw mode lib func expected target os

theorem T_if_will_return_async_unchecked (mode : Mode) (lib : Lib) (func : Nat) (expected : List Char)
    (target : Nat × List Char) (os : Os) :
    run (GenIf.WhenCalledBuilderAsync_will_return_async_unchecked mode lib func expected target) os =
      (Res.ok (), logs os (installEffects func target.1)) :=
  T_if_will_execute_raw_unchecked mode lib func expected target os

theorem run_when (c : Prop) [Decidable c] (name : String) (args : List Val) (os : Os) :
    run (if c then (do extU name args; pure ()) else pure ()) os =
      (Res.ok (), logs os (if c then [(name, args)] else [])) := by
  split <;> simp only [logs, List.append_nil, rt_step]

/-- **`will_execute`**: whether the verifier counts is asked first; a counting verifier's counter is reset to
    zero; the verifier is registered; only then comes `will_execute_raw` (gate, back end, guard).  So the reset
    precedes the installation (C07), the expectation is registered even when the gate then refuses (C05 /
    C06), and nothing of the back end happens before the gate (C09).
    `k`: the oracle's answer to `matches CallCountVerifier::WithCount` (non-zero: the verifier counts). -/
theorem T_if_will_execute (mode : Mode) (lib : Lib) (func : Nat) (expected : List Char)
    (fake : (Nat × List Char) × Unit) (k : Int) (rest : List Val) (log : List (String × List Val)) :
    run (GenIf.WhenCalledBuilder_will_execute mode lib func expected fake) { answers := Val.n k :: rest, log := log } =
      let pre : List (String × List Val) :=
        [("matches CallCountVerifier::WithCount", [])] ++
        (if k.toNat != 0 then [("counter.store", [Val.n 0, Val.n 0])] else []) ++
        [("self.lib.verifiers.push", [Val.n 0])]
      if fake.1.2 != expected then (Res.panic "Signature mismatch: expected :? but go", { answers := rest, log := log ++ pre })
      else (Res.ok (), { answers := rest, log := log ++ pre ++ installEffects func fake.1.1 }) := by
  simp only [GenIf.WhenCalledBuilder_will_execute, run_when, T_if_will_execute_raw, logs, rt_step]
  split <;> simp only [rt_step]

def boolEffects (func : Nat) (v : Bool) : List (String × List Val) :=
  [("replace_function_return_boolean", [Val.n (Int.ofNat func), Val.n (Int.ofNat (ofBool v))]),
   ("self.lib.guards.push", [Val.n 0])]

/-- **`will_return_boolean`**: the recorded text is scanned by the translated `signature_returns_bool`
    (= `Sig.returnsBoolText`); a text that does not return `bool` is refused before any effect -/
theorem T_if_will_return_boolean (mode : Mode) (lib : Lib) (func : Nat) (expected : List Char) (v : Bool) (os : Os)
    (hs : strLen expected < 9223372036854775808) :
    run (GenIf.WhenCalledBuilder_will_return_boolean mode lib func expected v) os =
      if returnsBoolText expected then (Res.ok (), logs os (boolEffects func v))
      else (Res.panic "Signature mismatch: will_return_boolean ", os) := by
  simp only [GenIf.WhenCalledBuilder_will_return_boolean, T_sig_returns_bool mode expected hs, rt_step]
  cases returnsBoolText expected with
  | false => simp only [Bool.not_false, if_true, Bool.false_eq_true, if_false, rt_step]
  | true =>
    simp only [Bool.not_true, Bool.false_eq_true, if_false, if_true, GenIf.WhenCalled_will_return_boolean_guard, logs,
      boolEffects, rt_step]

/-- **the lock**: `new` and `prevent` name the same static, take it through the same `lock`, which recovers
    from poisoning (`into_inner`) instead of failing.
    `k` (here and in `T_if_new`, `T_if_prevent`): the oracle's answer to `matches Ok` (zero: the lock was poisoned). -/
theorem T_if_lock (mode : Mode) (k : Int) (rest : List Val) (log : List (String × List Val)) :
    run (GenIf.NoPoisonMutex_lock mode ()) { answers := Val.n k :: rest, log := log } =
      (Res.ok (), { answers := rest, log := log ++ [("self.inner.lock", []), ("matches Ok", [])] ++
        (if k.toNat != 0 then [] else [("poisoned.into_inner", [])]) }) := by
  simp only [GenIf.NoPoisonMutex_lock, rt_step]
  split <;> simp only [rt_step]

theorem T_if_new (mode : Mode) (k : Int) (rest : List Val) (log : List (String × List Val)) :
    run (GenIf.InjectorPP_new mode) { answers := Val.n k :: rest, log := log } =
      (Res.ok (([] : List Unit), ([] : List Unit), ()), { answers := rest, log := log ++ [("static LOCK_FUNCTION", []), ("self.inner.lock", []), ("matches Ok", [])] ++
        (if k.toNat != 0 then [] else [("poisoned.into_inner", [])]) }) := by
  simp only [GenIf.InjectorPP_new, T_if_lock, rt_step]

theorem T_if_prevent (mode : Mode) (k : Int) (rest : List Val) (log : List (String × List Val)) :
    run (GenIf.InjectorPP_prevent mode) { answers := Val.n k :: rest, log := log } =
      (Res.ok (), { answers := rest, log := log ++ [("static LOCK_FUNCTION", []), ("self.inner.lock", []), ("matches Ok", [])] ++
        (if k.toNat != 0 then [] else [("poisoned.into_inner", [])]) }) := by
  simp only [GenIf.InjectorPP_prevent, T_if_lock, rt_step]

/-- what the restore loop logs for `n` guards: pop, drop the popped guard at once, …, the final empty pop -/
def popDrop : Nat → List (String × List Val)
  | 0 => [("self.guards.pop", [])]
  | n + 1 => [("self.guards.pop", []), ("drop", [Val.n 0])] ++ popDrop n

theorem T_if_drop_loop (mode : Mode) : ∀ (n fuel : Nat) (rest : List Val) (log : List (String × List Val)), n < fuel →
    run (GenIf.InjectorPP_Drop_drop_loop1 mode fuel ()) { answers := List.replicate n (Val.n 1) ++ Val.n 0 :: rest, log := log } =
      (Res.ok (none, ()), { answers := rest, log := log ++ popDrop n }) := by
  intro n
  induction n with
  | zero =>
    intro fuel rest log h
    obtain ⟨f, rfl⟩ := Nat.exists_eq_succ_of_ne_zero (Nat.ne_of_gt h)
    simp only [GenIf.InjectorPP_Drop_drop_loop1, List.replicate, if_true, popDrop, rt_step]
  | succ n ih =>
    intro fuel rest log h
    obtain ⟨f, rfl⟩ := Nat.exists_eq_succ_of_ne_zero (Nat.ne_of_gt (Nat.zero_lt_of_lt h))
    simp only [GenIf.InjectorPP_Drop_drop_loop1, List.replicate, show ((1 : Int) = 0) = False by decide, if_false,
      ih f rest _ (Nat.lt_of_succ_lt_succ h), popDrop, rt_step]

/-- **`Drop for InjectorPP`**: with `n` guards alive it pops and drops them one at a time until the vector is
    empty, and does nothing else: nothing touches the verifiers, and each guard is dropped as soon as it is
    popped (`Vec::pop` takes the newest) -/
theorem T_if_drop (mode : Mode) (n fuel : Nat) (g v : List Unit) (rest : List Val) (log : List (String × List Val))
    (h : n < fuel) :
    run (GenIf.InjectorPP_Drop_drop mode fuel g v ()) { answers := List.replicate n (Val.n 1) ++ Val.n 0 :: rest, log := log } =
      (Res.ok (), { answers := rest, log := log ++ popDrop n }) := by
  simp only [GenIf.InjectorPP_Drop_drop, T_if_drop_loop mode n fuel rest log h, rt_step]

theorem ite_bne {α β : Type} [DecidableEq α] (a b : α) (x y : β) :
    (if (a != b) = true then x else y) = if a = b then y else x := by
  by_cases h : a = b <;> simp [h]

/-- **`Drop for CallCountVerifier`**: a dummy does nothing; a counting verifier loads the counter, is
    silent when it equals the expectation, and otherwise asks `panicking()`: it panics only on a thread that
    is not already unwinding (never a double panic).
    The oracle's answers: `m` to `matches …WithCount` (zero: a dummy), `e` expectation, `c` counter, `p` `panicking()`. -/
theorem T_if_verifier_drop (mode : Mode) (m e c p : Int) (rest : List Val) (log : List (String × List Val)) :
    run (GenIf.CallCountVerifier_Drop_drop mode) { answers := [Val.n m, Val.n e, Val.n c, Val.n p] ++ rest, log := log } =
      if m.toNat = 0 then
        (Res.ok (), { answers := [Val.n e, Val.n c, Val.n p] ++ rest, log := log ++ [("matches CallCountVerifier::WithCount", [])] })
      else if c.toNat = e.toNat then
        (Res.ok (), { answers := [Val.n p] ++ rest, log := log ++ [("matches CallCountVerifier::WithCount", []), ("field expected", []), ("counter.load", [Val.n 0])] })
      else if p.toNat ≠ 0 then
        (Res.ok (), { answers := rest, log := log ++ [("matches CallCountVerifier::WithCount", []), ("field expected", []), ("counter.load", [Val.n 0]), ("panicking", [])] })
      else
        (Res.panic "Fake function was expected to be called ", { answers := rest, log := log ++ [("matches CallCountVerifier::WithCount", []), ("field expected", []), ("counter.load", [Val.n 0]), ("panicking", [])] }) := by
  simp only [GenIf.CallCountVerifier_Drop_drop, ite_bne, run_ite, ne_eq, ite_not, rt_step]

/-- **`FuncPtr::new`** refuses the null pointer by a panic and otherwise keeps pointer and signature -/
theorem T_if_funcptr_new (mode : Mode) (ptr : Nat) (sig : List Char) :
    GenIf.FuncPtr_new mode ptr sig =
      if ptr = 0 then Res.panic "Pointer must not be null" else Res.ok (ptr, sig) := by
  cases ptr <;> rfl

/-- **`when_called` / `when_called_unchecked`**: the builder carries the target's recorded signature, or the
    empty text for the unchecked entry point (which `will_return_boolean` then always refuses and the
    signature gate compares like any other text) -/
theorem T_if_when_called (mode : Mode) (g v : List Unit) (func : Nat × List Char) :
    GenIf.InjectorPP_when_called mode g v () func = Res.ok ((g, v, ()), func.1, func.2) ∧
    GenIf.InjectorPP_when_called_unchecked mode g v () func = Res.ok ((g, v, ()), func.1, []) := by
  constructor <;> rfl

theorem T_if_unchecked_bool_refused : returnsBoolText [] = false := rfl

/-! ## the two readers agree: each structural fact `translate/layout.py` reads off the text (regular expressions;
     `Generated.Layout`) equals the same fact computed by *running* the translated function -/

def lib0 : Lib := ([], [], ())
def os1 (a : List Val) : Os := { answers := a, log := [] }
def names (r : Res Unit × Os) : List String := r.2.log.map (·.1)
def isPanic {α : Type} (r : Res α × Os) : Bool := match r.1 with | Res.panic _ => true | Res.ok _ => false
def idxOf (l : List String) (x : String) : Nat := (l.findIdx? (· == x)).getD l.length

/-- refused with nothing done, on two texts that differ -/
def skelRawGate : Bool :=
  let r := run (GenIf.WhenCalledBuilder_will_execute_raw Mode.debug lib0 1 ['a'] (2, ['b'])) (os1 [])
  isPanic r && (names r).isEmpty
def skelAsyncGate : Bool :=
  let r := run (GenIf.WhenCalledBuilderAsync_will_return_async Mode.debug lib0 1 ['a'] (2, ['b'])) (os1 [])
  isPanic r && (names r).isEmpty
def skelBoolGate : Bool :=
  let r := run (GenIf.WhenCalledBuilder_will_return_boolean Mode.debug lib0 1 ['f', 'n', '(', ')'] true) (os1 [])
  isPanic r && (names r).isEmpty
/-- on a refused `will_execute` the verifier is already registered -/
def skelVerifierFirst : Bool :=
  let r := run (GenIf.WhenCalledBuilder_will_execute Mode.debug lib0 1 ['a'] ((2, ['b']), ())) (os1 [Val.n 1])
  isPanic r && (names r).contains "self.lib.verifiers.push"
/-- on an accepted `will_execute` of a counting fake the counter is reset before the back end is called -/
def skelResetFirst : Bool :=
  let r := run (GenIf.WhenCalledBuilder_will_execute Mode.debug lib0 1 ['a'] ((2, ['a']), ())) (os1 [Val.n 1])
  !isPanic r && idxOf (names r) "counter.store" < idxOf (names r) "replace_function_with_other_function"
def skelUncheckedEmpty : Bool :=
  match GenIf.InjectorPP_when_called_unchecked Mode.debug [] [] () (1, ['x']) with
  | Res.ok b => b.2.2.isEmpty
  | Res.panic _ => false
def skelNullRefused : Bool :=
  match GenIf.FuncPtr_new Mode.debug 0 ['x'] with | Res.panic _ => true | Res.ok _ => false
def skelSameLock : Bool :=
  let a := run (GenIf.InjectorPP_new Mode.debug) (os1 [Val.n 1])
  let b := run (GenIf.InjectorPP_prevent Mode.debug) (os1 [Val.n 1])
  a.2.log == b.2.log && (a.2.log.map (·.1)).contains "self.inner.lock" && (a.2.log.map (·.1)).contains "static LOCK_FUNCTION"
def skelPoisonRecovered : Bool :=
  let a := run (GenIf.InjectorPP_new Mode.debug) (os1 [Val.n 0])
  !isPanic a && (a.2.log.map (·.1)).contains "poisoned.into_inner"
def skelVerifierPanicking : Bool :=
  !isPanic (run (GenIf.CallCountVerifier_Drop_drop Mode.debug) (os1 [Val.n 1, Val.n 1, Val.n 2, Val.n 1])) &&
  isPanic (run (GenIf.CallCountVerifier_Drop_drop Mode.debug) (os1 [Val.n 1, Val.n 1, Val.n 2, Val.n 0])) &&
  !isPanic (run (GenIf.CallCountVerifier_Drop_drop Mode.debug) (os1 [Val.n 1, Val.n 2, Val.n 2, Val.n 0]))
/-- the injector's own `drop` touches the guards only, one pop / one drop at a time -/
def skelDropGuardsOnly : Bool :=
  names (run (GenIf.InjectorPP_Drop_drop Mode.debug 8 [] [] ()) (os1 [Val.n 1, Val.n 1, Val.n 0])) ==
    ["self.guards.pop", "drop", "self.guards.pop", "drop", "self.guards.pop"]

open Generated.Layout in
theorem T_layout_agrees :
    rawGateBeforeGuard = skelRawGate ∧ asyncGateBeforeGuard = skelAsyncGate ∧ boolGateBeforeGuard = skelBoolGate ∧
    verifierPushedBeforeGate = skelVerifierFirst ∧ counterResetOnInstall = skelResetFirst ∧
    uncheckedCarriesEmptySig = skelUncheckedEmpty ∧ funcPtrRejectsNull = skelNullRefused ∧
    (newTakesLock && preventTakesLock && sameLockStatic) = skelSameLock ∧ poisonRecovered = skelPoisonRecovered ∧
    verifierChecksPanicking = skelVerifierPanicking ∧
    (injectorHasDropImpl && decide (injectorDropBody = [Field.guards]) && decide (guardDropOrder = DropOrderSrc.explicitNewestFirst)) = skelDropGuardsOnly := by
  decide +kernel

/-! ## the same facts in the properties' own words -/

/-- C09: a replacement whose recorded type differs from the target's is refused by a "Signature mismatch"
    panic and the refusal leaves the whole state as it was (no back-end call, no guard) — sync and async -/
theorem T_c09_refusal_precedes_everything (mode : Mode) (lib : Lib) (func : Nat) (expected : List Char)
    (target : Nat × List Char) (os : Os) (h : target.2 ≠ expected) :
    run (GenIf.WhenCalledBuilder_will_execute_raw mode lib func expected target) os =
      (Res.panic "Signature mismatch: expected :? but go", os) ∧
    run (GenIf.WhenCalledBuilderAsync_will_return_async mode lib func expected target) os =
      (Res.panic "Signature mismatch: expected :? but go", os) := by
  constructor
  · rw [T_if_will_execute_raw, if_pos (bne_iff_ne.mpr h)]
  · rw [T_if_will_return_async, if_pos (bne_iff_ne.mpr h)]

/-- C09: identically written types are accepted, with exactly one back-end call for (function, replacement) -/
theorem T_c09_identical_accepted (mode : Mode) (lib : Lib) (func : Nat) (sig : List Char) (fake : Nat) (os : Os) :
    run (GenIf.WhenCalledBuilder_will_execute_raw mode lib func sig (fake, sig)) os =
      (Res.ok (), logs os (installEffects func fake)) := by
  rw [T_if_will_execute_raw, if_neg (by simp)]

/-- C07: in an accepted `will_execute` of a counting fake, the counter is set to zero before the back end is
    asked to patch anything; C05 / C06: the expectation is registered before the gate can refuse -/
theorem T_c07_reset_precedes_install (mode : Mode) (lib : Lib) (func : Nat) (sig : List Char) (fake : Nat)
    (rest : List Val) (log : List (String × List Val)) :
    (run (GenIf.WhenCalledBuilder_will_execute mode lib func sig ((fake, sig), ())) { answers := Val.n 1 :: rest, log := log }).2.log =
      log ++ [("matches CallCountVerifier::WithCount", []), ("counter.store", [Val.n 0, Val.n 0]),
              ("self.lib.verifiers.push", [Val.n 0])] ++ installEffects func fake := by
  rw [T_if_will_execute]
  simp

/-- C10: `will_return_boolean` on a target whose recorded text does not return `bool` (the unchecked entry
    point's empty text included) is refused before anything is done -/
theorem T_c10_nonbool_refused (mode : Mode) (lib : Lib) (func : Nat) (expected : List Char) (v : Bool) (os : Os)
    (hs : strLen expected < 9223372036854775808) (h : returnsBoolText expected = false) :
    run (GenIf.WhenCalledBuilder_will_return_boolean mode lib func expected v) os =
      (Res.panic "Signature mismatch: will_return_boolean ", os) := by
  rw [T_if_will_return_boolean mode lib func expected v os hs, h]
  rfl

end Inj.Tie

#print axioms Inj.Tie.T_if_will_execute_raw
#print axioms Inj.Tie.T_if_will_execute_raw_unchecked
#print axioms Inj.Tie.T_if_will_return_async
#print axioms Inj.Tie.T_if_will_return_async_unchecked
#print axioms Inj.Tie.T_if_will_execute
#print axioms Inj.Tie.T_if_will_return_boolean
#print axioms Inj.Tie.T_if_lock
#print axioms Inj.Tie.T_if_new
#print axioms Inj.Tie.T_if_prevent
#print axioms Inj.Tie.T_if_drop_loop
#print axioms Inj.Tie.T_if_drop
#print axioms Inj.Tie.T_if_verifier_drop
#print axioms Inj.Tie.T_if_funcptr_new
#print axioms Inj.Tie.T_if_when_called
#print axioms Inj.Tie.T_if_unchecked_bool_refused
#print axioms Inj.Tie.T_if_execute_guard
#print axioms Inj.Tie.T_layout_agrees
#print axioms Inj.Tie.T_c09_refusal_precedes_everything
#print axioms Inj.Tie.T_c09_identical_accepted
#print axioms Inj.Tie.T_c07_reset_precedes_install
#print axioms Inj.Tie.T_c10_nonbool_refused
