/-
  Tie/MacFlush.lean — C17 on the macOS memory path as translated (`GenMac`): what `inject_asm_code` and
  `patch_function` ask of the platform, for every input; in particular every range they write is named in
  a `sys_icache_invalidate` request issued after the write.  (`GenMac.drop` is translated and run by the
  driver; there is no theorem about it.)
-/
import InjModel.Generated.Fns
import InjModel.Lemmas.Rt
open Inj.Rt

namespace Inj.Tie

def mlogs (os : Os) (l : List (String × List Val)) : Os := { os with log := os.log ++ l }

theorem T_mac_clear_cache (mode : Mode) (start end_ : Nat) (os : Os)
    (h : start ≤ end_) (he : end_ < 18446744073709551616) :
    run (GenMac.clear_cache mode start end_) os =
      (Res.ok (), mlogs os [("sys_icache_invalidate", [Val.n (Int.ofNat start), Val.n (Int.ofNat (end_ - start))]), ("asm", [])]) := by
  simp only [GenMac.clear_cache, usub_ok 64 mode end_ start h he, mlogs, rt_step]

/-- **trampoline contents (macOS)**: write-protection off, the copy to `dest`, write-protection on, then an
    instruction-cache invalidation for exactly `[dest, dest + len)` and the barrier -/
theorem T_mac_inject (mode : Mode) (bytes : List Nat) (dest : Nat) (os : Os)
    (h : dest + bytes.length < 18446744073709551616) :
    run (GenMac.inject_asm_code mode bytes dest) os =
      (Res.ok (), mlogs os
        [("pthread_jit_write_protect_np", [Val.n 0]),
         ("copy_nonoverlapping", [Val.bs bytes, Val.n (Int.ofNat dest), Val.n (Int.ofNat bytes.length)]),
         ("pthread_jit_write_protect_np", [Val.n 1]),
         ("sys_icache_invalidate", [Val.n (Int.ofNat dest), Val.n (Int.ofNat bytes.length)]), ("asm", [])]) := by
  simp only [GenMac.inject_asm_code, uadd_ok 64 mode dest bytes.length h,
    T_mac_clear_cache mode dest (dest + bytes.length) _ (Nat.le_add_right _ _) h, Nat.add_sub_cancel_left, mlogs, rt_step]

/-- in `mach_vm_remap`'s order: target_task, target_address, size, mask, flags, src_task, src_address, copy,
    cur_protection, max_protection, inheritance -/
def remapArgs (len src dst : Nat) (flags : Int) : List Val :=
  [Val.n (Int.ofNat (0 : Nat)), Val.n (Int.ofNat dst), Val.n (Int.ofNat len), Val.n 0, Val.n flags,
   Val.n (Int.ofNat (0 : Nat)), Val.n (Int.ofNat src), Val.n 0, Val.n (0 : Int), Val.n (0 : Int), Val.n (2 : Int)]

/-- **entry patch / restoration (macOS)**: the page is remapped to an alias the kernel chooses (`remap`), the
    alias made writable, the bytes written there (with the trampoline-style invalidation of the alias), then
    the data cache flushed and the instruction cache invalidated **for the range at `func`** — after the
    write — and the alias mapped back over the function -/
theorem T_mac_patch_function (mode : Mode) (func : Nat) (patch : List Nat) (remap back : Int)
    (rest : List Val) (log : List (String × List Val))
    (h : remap.toNat + patch.length < 18446744073709551616) :
    run (GenMac.patch_function mode func patch) { answers := Val.n remap :: Val.n back :: rest, log := log } =
      (Res.ok (), { answers := rest, log := log ++
        [("mach_vm_remap", remapArgs patch.length func 0 (sbor 32 1 1048576)),
         ("mach_vm_protect", [Val.n (Int.ofNat (0 : Nat)), Val.n (Int.ofNat remap.toNat), Val.n 8, Val.n 0, Val.n (sbor 32 (sbor 32 1 2) 16)]),
         ("pthread_jit_write_protect_np", [Val.n 0]),
         ("copy_nonoverlapping", [Val.bs patch, Val.n (Int.ofNat remap.toNat), Val.n (Int.ofNat patch.length)]),
         ("pthread_jit_write_protect_np", [Val.n 1]),
         ("sys_icache_invalidate", [Val.n (Int.ofNat remap.toNat), Val.n (Int.ofNat patch.length)]), ("asm", []),
         ("sys_dcache_flush", [Val.n (Int.ofNat func), Val.n (Int.ofNat patch.length)]),
         ("mach_vm_protect", [Val.n (Int.ofNat (0 : Nat)), Val.n (Int.ofNat remap.toNat), Val.n 8, Val.n 0, Val.n (sbor 32 1 4)]),
         ("sys_icache_invalidate", [Val.n (Int.ofNat func), Val.n (Int.ofNat patch.length)]),
         ("mach_vm_remap", remapArgs patch.length remap.toNat func (sbor 32 16384 1048576))] }) := by
  simp only [GenMac.patch_function, T_mac_inject mode patch remap.toNat _ h, mlogs, remapArgs, rt_step]

end Inj.Tie

#print axioms Inj.Tie.T_mac_clear_cache
#print axioms Inj.Tie.T_mac_inject
#print axioms Inj.Tie.T_mac_patch_function
