/-
  Tie/InstallGeneral.lean — the x86-64 installation for every behaviour of the kernel during the
  search (not only a first hint that is honoured), and the failure side of C11 on the translated code.
-/
import InjModel.Tie.Corollaries
open Inj.Rt Inj.Alloc Inj.Machine

namespace Inj.Tie

/-- The x86-64 installation for **any** behaviour of the kernel during the search: if
    `Alloc.search` on the script of answers accepts `jit` (consuming the whole script), the translated
    `replace_function_with_other_function` performs exactly the search's OS calls, then fills and
    flushes the trampoline, then `patch_and_guard`. -/
theorem T_x86_install_general (mode : Mode) (func fake jit : Nat) (answers : List (Option Nat)) (evs : List AEvent)
    (code br saved : List Nat) (log : List (String × List Val)) (tail : List Val)
    (hf : func + 134217728 + 4096 < 18446744073709551616) (hk : fake < 18446744073709551616)
    (hA : ∀ x, some x ∈ answers → x < 18446744073709551615)
    (hs : search func 134217728 4096 12 answers = (AResult.ok jit, evs))
    (hall : mmapCount evs = answers.length)
    (hcode : X86.genBranch mode jit fake = Res.ok code)
    (hbr : X86.genBranch mode func jit = Res.ok br) :
    run (GenX86.replace_function_with_other_function mode (answers.length + 1) func fake)
        { answers := Val.n (4096 : Nat) :: (answers.map encAns ++ (Val.bs saved :: Val.n 4096 :: Val.n 0 :: tail)), log := log } =
      (Res.ok (), { answers := tail, log := log ++ [("sysconf", [Val.n 30])] ++ evs.map encEv ++
        [("copy_nonoverlapping", [Val.bs code, Val.n jit, Val.n code.length]),
         ("__clear_cache", [Val.n jit, Val.n ((jit + code.length : Nat) : Int)]),
         ("read_bytes", [Val.n func, Val.n br.length]),
         ("sysconf", [Val.n 30]),
         ("mprotect", [Val.n ((Machine.protectSpan func br.length).1 : Nat), Val.n ((Machine.protectSpan func br.length).2 : Nat), Val.n 7]),
         ("copy_nonoverlapping", [Val.bs br, Val.n func, Val.n br.length]),
         ("__clear_cache", [Val.n func, Val.n ((func + br.length : Nat) : Int)]),
         ("PatchGuard::new", [Val.n func, Val.bs saved, Val.n br.length, Val.n jit, Val.n 12])] }) :=
  x86_install mode func jit (Payload.exec fake) answers evs code br saved log tail hf
    (fun _ e => by cases e; exact hk) hA hs hall (payloadCode_exec.mpr hcode) hbr

/-- **C11, failure side, on the translated code**: when the search is exhausted the translated
    installation panics having made only the search's OS calls — no byte was written anywhere, no
    protection changed, and every mapping obtained was given back (`C11_sound`). -/
theorem T_x86_install_refused (mode : Mode) (func fake : Nat) (answers : List (Option Nat)) (evs : List AEvent)
    (log : List (String × List Val)) (tail : List Val)
    (hf : func + 134217728 + 4096 < 18446744073709551616)
    (hA : ∀ x, some x ∈ answers → x < 18446744073709551615)
    (hs : search func 134217728 4096 12 answers = (AResult.panic, evs)) :
    (run (GenX86.replace_function_with_other_function mode (answers.length + 1) func fake)
        { answers := Val.n (4096 : Nat) :: (answers.map encAns ++ tail), log := log }).1 =
      Res.panic "Failed to allocate JIT memory within ±m" ∧
    writesOf (delta (run (GenX86.replace_function_with_other_function mode (answers.length + 1) func fake)
        { answers := Val.n (4096 : Nat) :: (answers.map encAns ++ tail), log := log }) log) = [] ∧
    callsOf "mprotect" (delta (run (GenX86.replace_function_with_other_function mode (answers.length + 1) func fake)
        { answers := Val.n (4096 : Nat) :: (answers.map encAns ++ tail), log := log }) log) = [] ∧
    leaked evs [] = [] := by
  have ha := T_alloc mode func 12 4096 hf answers hA log tail (by rw [hs]; simp)
  rw [hs] at ha
  have hleak := (search_sound func 134217728 4096 12 answers).2 (by rw [hs])
  rw [hs] at hleak
  simp only [GenX86.replace_function_with_other_function, GenX86.allocate_jit_memory, ha, delta_append, rt_step]
  -- what is left of the log is `sysconf` followed by the search's calls
  refine ⟨trivial, ?_, ?_, hleak⟩
  · rw [writesOf_other (by decide), ← List.append_nil (evs.map encEv), writesOf_encEv_append, writesOf_nil]
  · rw [callsOf_other (by decide), callsOf_mprotect_encEv]
end Inj.Tie
#print axioms Inj.Tie.T_x86_install_general
#print axioms Inj.Tie.T_x86_install_refused
