/-
  Tie/A64MInstall.lean — the whole macOS / AArch64 installation `replace_function_with_other_function` as
  translated (configuration GenA64M), first hint honoured: what it asks of the platform, in order.
-/
import InjModel.Tie.A64MAlloc
import InjModel.Tie.A64MEmit
import InjModel.Tie.A64Long
open Inj.Rt

namespace Inj.Tie

/-- `GenA64M.read_bytes` has the body of `GenX86.read_bytes` (there is no pointer arithmetic in it) -/
theorem T_a64m_read_bytes (mode : Mode) (ptr len : Nat) (bs : List Nat) (rest : List Val) (log : List (String × List Val)) :
    run (GenA64M.read_bytes mode ptr len) { answers := Val.bs bs :: rest, log := log } =
      (Res.ok bs, { answers := rest, log := log ++ [("read_bytes", [Val.n ptr, Val.n len])] }) :=
  T_x86_read_bytes mode ptr len bs rest log

/-- macOS installation, first hint honoured with `jit` (within 2 GiB): the 12 entry bytes are read, the hinted
    20-byte `MAP_JIT` mapping is made, the trampoline `A64.tramp fake` is copied to it with the JIT write
    protection toggled around the copy and **invalidated in the instruction cache**, then the entry is
    rewritten through `patch_function` with the words of `A64.entryMacos func jit` and the guard is built. -/
theorem T_a64m_install_exec (mode : Mode) (func fake jit : Nat) (saved : List Nat)
    (log : List (String × List Val)) (tail : List Val)
    (hf : func + 2147483648 + 8192 < 9223372036854775808) (hj : jit < 9223372036854775808)
    (hnear : Alloc.absDiff jit func < 2147483648) :
    run (GenA64M.replace_function_with_other_function mode 2 func fake)
        { answers := Val.bs saved :: Val.n (4096 : Nat) :: Val.n jit :: tail, log := log } =
      (Res.ok (), { answers := tail, log := log ++
        [("read_bytes", [Val.n func, Val.n 12]),
         ("sysconf", [Val.n 30]),
         ("mmap", [Val.n ((func - 2147483648 : Nat) : Int), Val.n 20, Val.n allocProt, Val.n allocFlagsM, Val.n (-1), Val.n 0])] ++
        macInjectLog (A64.wordsToBytes (A64.tramp fake)) jit ++
        [("patch_function", [Val.n (Int.ofNat func), Val.bs (macosPatch func jit)]),
         ("PatchGuard::new", [Val.n (Int.ofNat func), Val.bs saved, Val.n (Int.ofNat 12), Val.n (Int.ofNat jit), Val.n (Int.ofNat 20)])] }) := by
  simp only [GenA64M.replace_function_with_other_function, GenA64M.allocate_jit_memory, a64m_alloc_eq,
    T_a64m_read_bytes, alloc_first mode allocFlagsM func 2147483648 4096 20 jit (by omega) (by omega) hnear,
    T_a64m_tramp mode jit fake _ (by omega), T_a64m_apply_branch_patch mode func jit 20 saved _ (by omega) hj, macInjectLog, rt_step]
  rfl

/-- C17 on macOS, about the list `macInjectLog` alone (that the translated code makes these calls is
    `T_a64m_tramp`, `T_a64m_install_exec`): the copy is followed, with only the write-protection toggle between,
    by an instruction-cache invalidation of exactly the range copied -/
theorem T_c17_macos_trampoline (fake jit : Nat) :
    ∃ pre post, macInjectLog (A64.wordsToBytes (A64.tramp fake)) jit =
      pre ++ [("copy_nonoverlapping", [Val.bs (A64.wordsToBytes (A64.tramp fake)), Val.n (Int.ofNat jit), Val.n (Int.ofNat (A64.wordsToBytes (A64.tramp fake)).length)]),
              ("pthread_jit_write_protect_np", [Val.n 1]),
              ("sys_icache_invalidate", [Val.n (Int.ofNat jit), Val.n (Int.ofNat (A64.wordsToBytes (A64.tramp fake)).length)])] ++ post :=
  ⟨[("pthread_jit_write_protect_np", [Val.n 0])], [("asm", [])], rfl⟩

end Inj.Tie

#print axioms Inj.Tie.T_a64m_read_bytes
#print axioms Inj.Tie.T_a64m_install_exec
#print axioms Inj.Tie.T_c17_macos_trampoline
